/-
  A ruler that answers for FEWER requests than the batch holds (fault letter `r<k>`: the list `RunRules` hands back is
  cut to its first `k` verdicts, after the rules ran and wrote their state).  dirk's own ruler never does this; the
  signer is written so that it would not matter: `SignBeaconAttestations` / `Multisign` scatter over
  `len(rulesResults)`, the response positions start as UNKNOWN without a signature, so a position the ruler did not
  speak about is never signed (services/signer/standard/signbeaconattestations.go, multisign.go).

  The definitions repeat `signAtts` / `multisign` (Model/Instance.lean) with the verdict list cut before signing.
  Theorems: Props/C06.lean (`C06_unruled_*`; with `k ≥` batch size these ARE `signAtts` / `multisign`), from
  Lemmas/ShortRules.lean (`Ruled`).
-/
import Dirk.Model.Handler

namespace Dirk

/-- response positions the ruler gave no verdict for: UNKNOWN, no signature -/
def padUnknown (n : Nat) (ps : List Pos) : List Pos :=
  ps ++ List.replicate (n - ps.length) ⟨.unknown, none⟩

/-- signing after a rules call whose result list was cut to `k` entries (`none` = the ruler's list was `n` × FAILED) -/
def finishKeyedShort (s : Inst) (keyed : List (Bytes × AttData)) (signFails : List Nat) (k : Nat)
    (evs? : Option (List (Bytes × AttData × Verdict))) (db' : Db) : Inst × List Pos :=
  match evs? with
  | none => ({ s with db := db' }, padUnknown keyed.length ((keyed.take k).map (fun _ => ⟨.failed, none⟩)))
  | some evs =>
    ({ s with db := db', attLog := s.attLog ++ (signEvs signFails 0 (evs.take k)).filterMap (·.2) },
     padUnknown keyed.length ((signEvs signFails 0 (evs.take k)).map (·.1)))

def attestKeyedShort (s : Inst) (keyed : List (Bytes × AttData)) (f : Faults) (signFails : List Nat) (k : Nat) :
    Inst × List Pos :=
  finishKeyedShort s keyed signFails k (rulesKeyed s.db keyed f).1 (rulesKeyed s.db keyed f).2

def signAttsShort (s : Inst) (client : String) (items : List (Addr × AttData)) (f : Faults)
    (signFails : List Nat) (k : Nat) : Inst × List Pos :=
  let n := items.length
  if n = 0 then (s, [⟨.denied, none⟩]) else
  match firstMalformed (items.map (·.2)) with
  | some i => (s, (List.range n).map (fun j => if j = i then ⟨.denied, none⟩ else ⟨.unknown, none⟩))
  | none =>
    let pcs := preCheckAll s.cfg client opAttest items f.lockStateFail
    if pcs.any isErr then (s, preCheckPositions pcs)
    else
      let keyed := okItems pcs
      match firstDup [] 0 (keyed.map (·.1)) with
      | some _ => (s, padUnknown items.length ((items.take k).map (fun _ => ⟨.failed, none⟩)))   -- the ruler's n × FAILED, cut
      | none => attestKeyedShort s keyed f signFails k

def multisignShort (s : Inst) (client ip : String) (items : List (Addr × SignData)) (signFails : List Nat)
    (lockStateFail : Bool) (k : Nat) : Inst × List Pos :=
  let n := items.length
  if n = 0 then (s, [⟨.denied, none⟩]) else
  match (items.map (·.2)).findIdx? (fun d => !d.wellFormed) with
  | some i => (s, (List.range n).map (fun j => if j = i then ⟨.denied, none⟩ else ⟨.unknown, none⟩))
  | none =>
    let pcs := preCheckAll s.cfg client opSign items lockStateFail
    if pcs.any isErr then (s, preCheckPositions pcs)
    else
      let keyed := okItems pcs
      match firstDup [] 0 (keyed.map (·.1)) with
      | some _ => (s, padUnknown items.length ((items.take k).map (fun _ => ⟨.failed, none⟩)))   -- the ruler's n × FAILED, cut
      | none =>
        let outs := signGenerics s.cfg.adminIPs ip signFails 0 (keyed.take k)
        ({ s with signLog := s.signLog ++ outs.filterMap (·.2) }, padUnknown keyed.length (outs.map (·.1)))

/-! through the gRPC handlers -/

def hSignAttsShort (s : Inst) (client : String) (items : List (Addr × AttData)) (f : Faults) (sf : List Nat)
    (k : Nat) : Inst × List Pos :=
  let items := items.map (fun it => (it.1.wire, it.2.wire))
  if items.isEmpty then (s, [⟨.denied, none⟩]) else
  match firstRejected (items.map (·.1)) with
  | some i => (s, (List.range items.length).map (fun j => if j = i then ⟨.denied, none⟩ else ⟨.unknown, none⟩))
  | none => let r := signAttsShort s client items f sf k; (r.1, r.2.map respond)

def hMultisignShort (s : Inst) (client ip : String) (items : List (Addr × SignData)) (sf : List Nat)
    (lockStateFail : Bool) (k : Nat) : Inst × List Pos :=
  let items := items.map (fun it => (it.1.wire, it.2.wire))
  if items.isEmpty then (s, [⟨.denied, none⟩]) else
  match firstRejectedSign items with
  | some i => (s, (List.range items.length).map (fun j => if j = i then ⟨.denied, none⟩ else ⟨.unknown, none⟩))
  | none => let r := multisignShort s client ip items sf lockStateFail k; (r.1, r.2.map respond)

end Dirk
