/-
  Dirk.Gen.Kernels — GENERATED — do not edit.  Regenerated on every run by /verif/factx (kernels.go, signloop.go,
  precheck.go, runrules.go, lister.go, handlerbatch.go, dispatch.go) from the
  Go source of the decision kernels (rules/standard, services/checker/static, services/process/standard,
  util/scatter.go, services/api/grpc/handlers/receiver, services/peers/static, slashingprotection.go,
  services/signer/standard: the batch signing loop and the pre-check, with core/result.go and rules/service.go for the
  enumerator values; services/ruler/golang/runner.go: RunRules and the head of runRules, with services/ruler/service.go
  for the action constants; services/lister/standard/listaccounts.go; services/api/grpc/handlers/signer: the batch paths of
  SignBeaconAttestations and Multisign; services/ruler/golang/runner.go again: the per-entry dispatch of runRules and the
  batch shortcut runRulesForMultipleBeaconAttestations);
  the modules under Dirk/Props/Kernels/ (gathered by Dirk/Props/KernelsEq.lean) prove each definition
  equal to the hand-written model function.  A kernel outside the translatable fragment appears as
  `kernelUntranslatable_<name>` instead, and its module there does not build.
-/
import Dirk.Model.Rules
import Dirk.Model.Checker

set_option linter.unusedVariables false

namespace Dirk.Gen

/-- Go `int` arithmetic (64-bit two's complement): the result of `+ - * /` reduced to the representable range
    (fixed text, not translated from any source). -/
def wrapI64 (x : Int) : Int := (x + 9223372036854775808) % 18446744073709551616 - 9223372036854775808

/-- `runSignBeaconAttestationChecks` (rules/standard/signbeaconattestations.go), translated statement by statement; model counterpart: `Dirk.attChecks`. -/
def attChecksGen (domain : Bytes) (src : Nat) (tgt : Nat) (stSrc : Int) (stTgt : Int) : Verdict × (Int × Int) :=
  if ¬ (prefix4 domain = domAttester) then (.denied, (stSrc, stTgt))
  else if ((src ≠ 0) ∨ (tgt ≠ 0)) ∧ (tgt ≤ src) then (.denied, (stSrc, stTgt))
  else if (src > maxI64) ∨ (tgt > maxI64) then (.denied, (stSrc, stTgt))
  else if (stTgt ≥ 0) ∧ (tgt ≤ (u64 stTgt)) then (.denied, (stSrc, stTgt))
  else if (stSrc ≥ 0) ∧ (src < (u64 stSrc)) then (.denied, (stSrc, stTgt))
  else (.approved, (i64 src, i64 tgt))

/-- the guards of `runSignBeaconAttestationChecks`, as written in the source, in order -/
def attChecksGuards : List String := [
  "!bytes.Equal(req.Domain[0:4], e2types.DomainBeaconAttester[:]) => return rules.DENIED",
  "(sourceEpoch != 0 || targetEpoch != 0) && (targetEpoch <= sourceEpoch) => return rules.DENIED",
  "sourceEpoch > math.MaxInt64 || targetEpoch > math.MaxInt64 => return rules.DENIED",
  "state.TargetEpoch >= 0 && targetEpoch <= uint64(state.TargetEpoch) => return rules.DENIED",
  "state.SourceEpoch >= 0 && sourceEpoch < uint64(state.SourceEpoch) => return rules.DENIED",
  "return rules.APPROVED"
]

/-- `OnSignBeaconProposal` (rules/standard/signbeaconproposal.go), translated statement by statement; model counterpart: `Dirk.onPropose`.
    `fetched` = result of `fetchSignBeaconProposalState` (`none` = error), `storeOk` = `storeSignBeaconProposalState` returned no error;
    second component = the state handed to the store, if it was called. -/
def propChecksGen (domain : Bytes) (slot : Nat) (fetched : Option Int) (storeOk : Bool) : Verdict × Option Int :=
  if ¬ (prefix4 domain = domProposer) then (.denied, none)
  else if slot > maxI64 then (.denied, none)
  else match fetched with
  | none => (.failed, none)
  | some stSlot =>
    if (stSlot ≥ 0) ∧ (slot ≤ (u64 stSlot)) then (.denied, none)
    else if storeOk = false then (.failed, some (i64 slot))
    else (.approved, some (i64 slot))

/-- the guards of `OnSignBeaconProposal`, as written in the source, in order -/
def propChecksGuards : List String := [
  "!bytes.Equal(req.Domain[0:4], e2types.DomainBeaconProposer[:]) => return rules.DENIED",
  "req.Slot > math.MaxInt64 => return rules.DENIED",
  "fetch s.fetchSignBeaconProposalState(metadata.PubKey); err != nil => return rules.FAILED",
  "state.Slot >= 0 && slot <= uint64(state.Slot) => return rules.DENIED",
  "store s.storeSignBeaconProposalState(metadata.PubKey, state); err != nil => return rules.FAILED",
  "return rules.APPROVED"
]

/-- `OnSign` (rules/standard/sign.go), translated statement by statement; model counterpart: `Dirk.onSign`. -/
def onSignGen (metadataNil : Bool) (adminIPs : List String) (ip : String) (domain : Bytes) : Verdict :=
  if metadataNil = true then .failed
  else if prefix4 domain = domAttester then .denied
  else if prefix4 domain = domProposer then .denied
  else if (prefix4 domain = domExit) ∧ (ip = "") then .denied
  else if (prefix4 domain = domExit) ∧ (¬ (adminIPs.contains ip)) then .denied
  else .approved

/-- the guards of `OnSign`, as written in the source, in order -/
def onSignGuards : List String := [
  "metadata == nil => return rules.FAILED",
  "bytes.Equal(req.Domain[0:4], e2types.DomainBeaconAttester[:]) => return rules.DENIED",
  "bytes.Equal(req.Domain[0:4], e2types.DomainBeaconProposer[:]) => return rules.DENIED",
  "bytes.Equal(req.Domain[0:4], e2types.DomainVoluntaryExit[:]) && metadata.IP == \"\" => return rules.DENIED",
  "validIP := (metadata.IP ∈ s.adminIPs)  [for-range membership loop]",
  "bytes.Equal(req.Domain[0:4], e2types.DomainVoluntaryExit[:]) && !validIP => return rules.DENIED",
  "return rules.APPROVED"
]

/-- `regexify` (services/checker/static/parameters.go), the string handed to `regexp.Compile`, as a function of the parameter; model counterpart: `Dirk.regexify`. -/
def regexifyGen (name : String) : String :=
  "(?i)^(?:" ++ (if name = "" then ".*" else name) ++ ")$"

/-- the guards of `regexify`, as written in the source, in order -/
def regexifyGuards : List String := [
  "if name == \"\" { name = \".*\" }",
  "name = fmt.Sprintf(\"(?i)^(?:%s)$\", name)",
  "return regexp.Compile(name)"
]

/-- `Check` (services/checker/static/service.go), inner loop over one matching path's operations: `some b` = `return b`, `none` = the loop ends without a verdict; model counterpart: `Dirk.check / Dirk.scanPaths / Dirk.scanOps`. -/
def checkOpsGen (op : String) : List String → Option Bool
  | [] => none
  | o :: os =>
    if (equalFold o "none") ∨ (equalFold o ("~" ++ op)) then some false
    else if (equalFold o "all") ∨ (equalFold o op) then some true
    else checkOpsGen op os

/-- `Check` (services/checker/static/service.go), outer loop; each path is given as (did the wallet and the account regex both match?, its operations); model counterpart: `Dirk.check / Dirk.scanPaths / Dirk.scanOps`. -/
def checkLoopGen (op : String) : List (Bool × List String) → Bool
  | [] => false
  | p :: ps =>
    if p.1 then
      match checkOpsGen op p.2 with
      | some b => b
      | none => checkLoopGen op ps
    else checkLoopGen op ps

/-- `Check` (services/checker/static/service.go), the guards before the loops: `some b` = `return b`, `none` = go on to the loops.
    `credsNil`: credentials == nil; `client`: credentials.Client; `pathOk`: WalletAndAccountNames returned no error;
    `wallet`: the wallet name it returned; `known`: the client has an entry in the access map; model counterpart: `Dirk.check / Dirk.scanPaths / Dirk.scanOps`. -/
def checkGuardsGen (credsNil : Bool) (client : String) (pathOk : Bool) (wallet : String) (known : Bool) : Option Bool :=
  if credsNil = true then some false
  else if client = "" then some false
  else if pathOk = false then some false
  else if wallet = "" then some false
  else if ¬ known then some false
  else none

/-- the guards of `Check`, as written in the source, in order -/
def checkGuards : List String := [
  "credentials == nil => return false",
  "credentials.Client == \"\" => return false",
  "walletName, accountName, err := e2wallet.WalletAndAccountNames(account); err != nil => return false",
  "walletName == \"\" => return false",
  "paths, exists := s.access[credentials.Client]  [map lookup: exists ↦ known]",
  "!exists => return false",
  "antiOperation := fmt.Sprintf(\"~%s\", operation)",
  "for _, path := range paths { if path.wallet.MatchString(walletName) && path.account.MatchString(accountName) { for … range path.operations {",
  "  strings.EqualFold(path.operations[i], \"none\") || strings.EqualFold(path.operations[i], antiOperation) => return false",
  "  strings.EqualFold(path.operations[i], \"all\") || strings.EqualFold(path.operations[i], operation) => return true",
  "} } }",
  "return false"
]

/-- `OnGenerate` (services/process/standard/generate.go), the parameter checks at the top (uint32 arithmetic), `true` = none of them refuses; model counterpart: `Dirk.Dkg.generateAccepts`. -/
def generateAcceptsGen (n : Nat) (t : Nat) : Bool :=
  if n = 0 then false
  else if t > n then false
  else if t ≤ (n / 2) then false
  else true

/-- the guards of `OnGenerate`, as written in the source, in order -/
def generateAcceptsGuards : List String := [
  "numParticipants == 0 => refuse",
  "signingThreshold > numParticipants => refuse",
  "signingThreshold <= numParticipants/2 => refuse",
  "[translation stops at: walletName, accountName, err := e2wallet.WalletAndAccountNames(account)]"
]

/-- `OnContribute` (services/process/standard/service.go), the conditions between the lookup of the generation and the storing of the contribution, `true` = stored.
    `valid`: verifyContribution(generation.id, secret, vVec); `vlen`: len(vVec); `threshold`: generation.threshold;
    `listed`: the sender id is the ID of one of generation.participants; model counterpart: `Dirk.Dkg.fixedAccepts`. -/
def fixedAcceptsGen (valid : Bool) (vlen : Nat) (threshold : Nat) (listed : Bool) : Bool :=
  if ¬ listed then false
  else if vlen ≠ threshold then false
  else if ¬ valid then false
  else true

/-- the guards of `OnContribute`, as written in the source, in order -/
def fixedAcceptsGuards : List String := [
  "isParticipant := (senderID ∈ IDs of generation.participants)  [for-range membership loop]",
  "!isParticipant => refuse",
  "len(vVec) != int(generation.threshold) => refuse",
  "!verifyContribution(generation.id, secret, vVec) => refuse",
  "accept: the contribution is stored (2 assignments), return …, nil"
]

/-- `calculateExtentSize` (util/scatter.go), Go `int` arithmetic statement by statement (`/` = Int.tdiv, `%` = Int.tmod, results kept in the int64 range by wrapI64).
    `items`: the parameter; `procs`: runtime.GOMAXPROCS(0) (the runtime guarantees >= 1); `none` = integer divide by zero (panic); model counterpart: `Dirk.extentSize`. -/
def extentSizeGen (items procs : Int) : Option Int :=
  if procs = 0 then none else  -- integer divide by zero: run-time panic
  let extentSize : Int := wrapI64 (Int.tdiv items procs)
  if extentSize = 0 then some 1 else
  if extentSize = 0 then none else  -- integer divide by zero: run-time panic
  let extentSize : Int := if (Int.tmod items extentSize) > 0 then wrapI64 (extentSize + 1) else extentSize
  some extentSize

/-- the guards of `calculateExtentSize`, as written in the source, in order -/
def extentSizeGuards : List String := [
  "extentSize := items / runtime.GOMAXPROCS(0)",
  "extentSize == 0 => return 1",
  "items%extentSize > 0 => extentSize++",
  "return extentSize"
]

/-- `senderID` (services/api/grpc/handlers/receiver/helpers.go), the loop over the map h.peers.All(): entries (id, name) in ITERATION order (unspecified in Go), `acc` = the result variable so far; model counterpart: `Dirk.Dkg.senderId (the name → id resolution it presupposes)`. -/
def senderIdLoopGen (caller : String) (acc : Nat) : List (Nat × String) → Nat
  | [] => acc
  | p :: ps => if p.2 = caller then p.1 else senderIdLoopGen caller acc ps

/-- `senderID` (services/api/grpc/handlers/receiver/helpers.go), for a context that carries the client name `caller`; the result variable starts as 0 (`var senderID uint64`); model counterpart: `Dirk.Dkg.senderId (the name → id resolution it presupposes)`. -/
def senderIdGen (peers : List (Nat × String)) (caller : String) : Nat :=
  senderIdLoopGen caller 0 peers

/-- `senderID` (services/api/grpc/handlers/receiver/helpers.go), the whole function; `client` = ctx.Value(&interceptors.ClientName{}) if it is a string (`none`: the loop is skipped); model counterpart: `Dirk.Dkg.senderId (the name → id resolution it presupposes)`. -/
def senderIdCtxGen (client : Option String) (peers : List (Nat × String)) : Nat :=
  match client with
  | none => 0
  | some caller => senderIdGen peers caller

/-- the guards of `senderID`, as written in the source, in order -/
def senderIdGuards : List String := [
  "var senderID uint64",
  "client, ok := ctx.Value(&interceptors.ClientName{}).(string); ok =>",
  "  for id, peer := range h.peers.All() {  [map: iteration order unspecified]",
  "    peer.Name == client => senderID = id; break",
  "  }",
  "return senderID"
]

/-- `OnCommit` (services/process/standard/service.go), the loop over generation.participants: `false` = some iteration refuses; model counterpart: `Dirk.Dkg.onCommit`. -/
def commitListedGen : List (Bool × Bool) → Bool
  | [] => true
  | p :: ps =>
    if (¬ p.1) ∨ (¬ p.2) then false
    else commitListedGen ps

/-- `OnCommit` (services/process/standard/service.go), the conditions between the lookup of the generation and the key aggregation, `true` = none of them refuses.
    `nSecrets`: len(generation.sharedSecrets); `nVvecs`: len(generation.sharedVVecs); `nParticipants`: len(generation.participants);
    `listed`: per listed participant, in order, (its ID is a key of sharedSecrets, its ID is a key of sharedVVecs); model counterpart: `Dirk.Dkg.onCommit`. -/
def commitAcceptsGen (nSecrets nVvecs nParticipants : Nat) (listed : List (Bool × Bool)) : Bool :=
  if nSecrets ≠ nParticipants then false
  else if nVvecs ≠ nParticipants then false
  else if ¬ commitListedGen listed then false
  else true

/-- the guards of `OnCommit`, as written in the source, in order -/
def commitAcceptsGuards : List String := [
  "generation, err := s.getGeneration(ctx, account); errors.Is(err, ErrNotFound) => refuse  [getGeneration returns (nil, ErrNotFound) or (generation, nil)]",
  "len(generation.sharedSecrets) != len(generation.participants) => refuse",
  "len(generation.sharedVVecs) != len(generation.participants) => refuse",
  "for _, participant := range generation.participants {",
  "  _, haveSecret := generation.sharedSecrets[participant.ID]",
  "  _, haveVVec := generation.sharedVVecs[participant.ID]",
  "  !haveSecret || !haveVVec => refuse",
  "}",
  "[translation stops at: privateKey := bls.SecretKey{}]"
]

/-- `getGeneration` (services/process/standard/generation.go), the one guard that reads the clock.  `now - started`: time.Since(generation.processStarted) (monotonic clock: never negative,
    so the truncated subtraction of Nat is exact); `timeout`: s.generationTimeout (a Duration; the comparison is between Durations); model counterpart: `Dirk.Dkg.active`. -/
def generationExpiredGen (now started timeout : Nat) : Bool :=
  decide ((now - started) > timeout)

/-- `getGeneration` (services/process/standard/generation.go), the whole function: (a generation is returned, the map entry is deleted); `present`: the account has an entry in s.generations; model counterpart: `Dirk.Dkg.active`. -/
def getGenerationGen (present : Bool) (now started timeout : Nat) : Bool × Bool :=
  if ¬ present then (false, false)
  else if (now - started) > timeout then (false, true)
  else (true, false)

/-- the guards of `getGeneration`, as written in the source, in order -/
def generationExpiredGuards : List String := [
  "generator, exists := s.generations[account]  [map lookup: exists ↦ present]",
  "!exists => return nil, ErrNotFound",
  "time.Since(generator.processStarted) > s.generationTimeout => delete(s.generations, account); return nil, ErrNotFound",
  "return generator, nil"
]

/-- `Suitable` (services/peers/static/service.go), the guards before the first allocation, `true` = one of them refuses.
    `threshold`: the uint32 parameter; `npeers`: len(s.peers); model counterpart: `Dirk.suitableAlloc`. -/
def suitableRefusesGen (threshold npeers : Nat) : Bool :=
  if threshold > npeers then true
  else false

/-- `Suitable` (services/peers/static/service.go), … and the size of the first allocation (`make`) if none of them does: `none` = refused before anything is allocated; model counterpart: `Dirk.suitableAlloc`. -/
def suitableAllocGen (threshold npeers : Nat) : Option Nat :=
  if suitableRefusesGen threshold npeers then none else some threshold

/-- the guards of `Suitable`, as written in the source, in order -/
def suitableRefusesGuards : List String := [
  "uint64(threshold) > uint64(len(s.peers)) => refuse",
  "[skipped local: suitable := uint32(0)]",
  "[first allocation: res := make([]*core.Endpoint, threshold)]"
]

/-- `storeSlashingProtection` (slashingprotection.go), the record the merge of one file entry starts from, as (slot, source, target).
    `fromFile`: the record already in the map being built (the key was seen earlier in this file); `fromStore`: the key's record in
    the export of the existing store; model counterpart: `Dirk.mergeEntries (the start record)`. -/
def importStartGen (fromFile fromStore : Option (Int × Int × Int)) : Int × Int × Int :=
  match fromFile with
  | some kp => kp
  | none =>
    let curSlot : Int := (-1)
    let curSrc : Int := (-1)
    let curTgt : Int := (-1)
    match fromStore with
    | none => (curSlot, curSrc, curTgt)
    | some ex =>
      let curSrc : Int := ex.2.1
      let curTgt : Int := ex.2.2
      let curSlot : Int := ex.1
      (curSlot, curSrc, curTgt)

/-- the guards of `storeSlashingProtection`, as written in the source, in order -/
def importStartGuards : List String := [
  "[key] bytes, err := hex.DecodeString(strings.TrimPrefix(protection.Data[i].PublicKey, \"0x\")); err != nil => refuse",
  "[key] var key [48]byte",
  "[key] copy(key[:], bytes)",
  "keyProtection, exists := protectionMap[key]  [map lookup: the record ↦ fromFile]",
  "!exists => {",
  "  keyProtection = &rules.SlashingProtection{ HighestAttestedSourceEpoch: -1, HighestAttestedTargetEpoch: -1, HighestProposedSlot: -1, }",
  "  [existingProtection, err := rulesSvc.ExportSlashingProtection(ctx)]",
  "  existingKeyProtection, exists := existingProtection[key]; exists => {  [map lookup: the record ↦ fromStore]",
  "    keyProtection.HighestAttestedSourceEpoch = existingKeyProtection.HighestAttestedSourceEpoch",
  "    keyProtection.HighestAttestedTargetEpoch = existingKeyProtection.HighestAttestedTargetEpoch",
  "    keyProtection.HighestProposedSlot = existingKeyProtection.HighestProposedSlot",
  "  }",
  "}",
  "[loops over the entry: attestations;blocks;]",
  "protectionMap[key] = keyProtection"
]

/-- `storeSlashingProtection` (slashingprotection.go), one iteration of the loop over the entry's signed attestations.  `curSrc`, `curTgt`: the record's HighestAttestedSourceEpoch / …TargetEpoch;
    `src`, `tgt`: strconv.ParseInt(attestation.SourceEpoch / .TargetEpoch, 10, 64) (`none` = it returned an error);
    result `none` = the function returns an error, else the two fields after the iteration; model counterpart: `Dirk.foldAtts (one element)`. -/
def importAttStepGen (curSrc curTgt : Int) (src tgt : Option Int) : Option (Int × Int) :=
  match src with
  | none => none
  | some v_sourceEpoch =>
    if v_sourceEpoch < 0 then none else
    let curSrc : Int := if v_sourceEpoch > curSrc then v_sourceEpoch else curSrc
    match tgt with
    | none => none
    | some v_targetEpoch =>
      if v_targetEpoch < 0 then none else
      let curTgt : Int := if v_targetEpoch > curTgt then v_targetEpoch else curTgt
      some (curSrc, curTgt)

/-- the guards of `storeSlashingProtection`, as written in the source, in order -/
def importAttStepGuards : List String := [
  "for _, attestation := range protection.Data[i].SignedAttestations {",
  "  sourceEpoch, err := strconv.ParseInt(attestation.SourceEpoch, 10, 64); err != nil => refuse  [strconv.ParseInt(attestation.SourceEpoch, 10, 64) ↦ src]",
  "  sourceEpoch < 0 => refuse",
  "  sourceEpoch > keyProtection.HighestAttestedSourceEpoch => keyProtection.HighestAttestedSourceEpoch = sourceEpoch",
  "  targetEpoch, err := strconv.ParseInt(attestation.TargetEpoch, 10, 64); err != nil => refuse  [strconv.ParseInt(attestation.TargetEpoch, 10, 64) ↦ tgt]",
  "  targetEpoch < 0 => refuse",
  "  targetEpoch > keyProtection.HighestAttestedTargetEpoch => keyProtection.HighestAttestedTargetEpoch = targetEpoch",
  "}"
]

/-- `storeSlashingProtection` (slashingprotection.go), one iteration of the loop over the entry's signed blocks.  `curSlot`: the record's HighestProposedSlot;
    `slot`: strconv.ParseInt(proposal.Slot, 10, 64) (`none` = it returned an error);
    result `none` = the function returns an error, else the field after the iteration; model counterpart: `Dirk.foldBlocks (one element)`. -/
def importBlockStepGen (curSlot : Int) (slot : Option Int) : Option Int :=
  match slot with
  | none => none
  | some v_slot =>
    if v_slot < 0 then none else
    let curSlot : Int := if v_slot > curSlot then v_slot else curSlot
    some curSlot

/-- the guards of `storeSlashingProtection`, as written in the source, in order -/
def importBlockStepGuards : List String := [
  "for _, proposal := range protection.Data[i].SignedBlocks {",
  "  slot, err := strconv.ParseInt(proposal.Slot, 10, 64); err != nil => refuse  [strconv.ParseInt(proposal.Slot, 10, 64) ↦ slot]",
  "  slot < 0 => refuse",
  "  slot > keyProtection.HighestProposedSlot => keyProtection.HighestProposedSlot = slot",
  "}"
]

/-- rules/service.go: the enumerators of `rules.Result` with the values their iota block gives them, in declaration order -/
def rulesResultValuesGen : List (String × Nat) := [("UNKNOWN", 0), ("APPROVED", 1), ("DENIED", 2), ("FAILED", 3)]

/-- core/result.go: the enumerators of `core.Result` with the values their iota block gives them, in declaration order -/
def coreResultValuesGen : List (String × Nat) := [("ResultUnknown", 0), ("ResultSucceeded", 1), ("ResultDenied", 2), ("ResultFailed", 3)]

/-- the zero value of `core.Result` (what `make([]core.Result, n)` fills the slice with) is the enumerator ResultUnknown -/
def coreResultZeroIsUnknownGen : Bool := true

/-- `SignBeaconAttestations` (services/signer/standard/signbeaconattestations.go), ONE visited position of the final (signing) loop: the `core.Result` value written to `results[i]` and whether `signatures[i]` is assigned.
    `verdict`: the value of `rulesResults[i]` (a `rules.Result`; a value no arm names falls out of the switch, as in Go);
    rootErr, signingRootErr, signErr: the allow-listed calls HashTreeRoot, generateSigningRoot, signRoot returned an error, in source order; model counterpart: `Dirk.signEvs (one element)`. -/
def signLoopPosAttGen (verdict : Nat) (rootErr signingRootErr signErr : Bool) : Nat × Bool :=
  if verdict = 0 then (3, false)
  else if verdict = 2 then (2, false)
  else if verdict = 3 then (3, false)
  else if verdict = 1 then
    if rootErr then (3, false)
    else if signingRootErr then (3, false)
    else if signErr then (3, false)
    else (1, true)
  else
    if rootErr then (3, false)
    else if signingRootErr then (3, false)
    else if signErr then (3, false)
    else (1, true)

/-- the guards of `SignBeaconAttestations`, as written in the source, in order -/
def signLoopPosAttGuards : List String := [
  "switch rulesResults[i]",
  "case rules.UNKNOWN: results[i] = core.ResultFailed; continue",
  "case rules.DENIED: results[i] = core.ResultDenied; continue",
  "case rules.FAILED: results[i] = core.ResultFailed; continue",
  "case rules.APPROVED: (nothing: falls out of the switch)",
  "attestation := &spec.AttestationData{…}",
  "copy(attestation.BeaconBlockRoot[:], data[i].BeaconBlockRoot)",
  "copy(attestation.Source.Root[:], data[i].Source.Root)",
  "copy(attestation.Target.Root[:], data[i].Target.Root)",
  "dataRoot, err := attestation.HashTreeRoot()",
  "if err != nil { results[i] = core.ResultFailed; continue }",
  "signingRoot, err := generateSigningRoot(ctx, dataRoot[:], data[i].Domain)",
  "if err != nil { results[i] = core.ResultFailed; continue }",
  "signature, err := signRoot(ctx, accounts[i], signingRoot[:])",
  "if err != nil { results[i] = core.ResultFailed; continue }",
  "results[i] = core.ResultSucceeded",
  "signatures[i] = signature"
]

/-- `Multisign` (services/signer/standard/multisign.go), ONE visited position of the final (signing) loop: the `core.Result` value written to `results[i]` and whether `signatures[i]` is assigned.
    `verdict`: the value of `rulesResults[i]` (a `rules.Result`; a value no arm names falls out of the switch, as in Go);
    signingRootErr, signErr: the allow-listed calls generateSigningRoot, signRoot returned an error, in source order; model counterpart: `Dirk.signGenerics (one element)`. -/
def signLoopPosMultiGen (verdict : Nat) (signingRootErr signErr : Bool) : Nat × Bool :=
  if verdict = 0 then (3, false)
  else if verdict = 2 then (2, false)
  else if verdict = 3 then (3, false)
  else if verdict = 1 then
    if signingRootErr then (3, false)
    else if signErr then (3, false)
    else (1, true)
  else
    if signingRootErr then (3, false)
    else if signErr then (3, false)
    else (1, true)

/-- the guards of `Multisign`, as written in the source, in order -/
def signLoopPosMultiGuards : List String := [
  "switch rulesResults[i]",
  "case rules.UNKNOWN: results[i] = core.ResultFailed; continue",
  "case rules.DENIED: results[i] = core.ResultDenied; continue",
  "case rules.FAILED: results[i] = core.ResultFailed; continue",
  "case rules.APPROVED: (nothing: falls out of the switch)",
  "signingRoot, err := generateSigningRoot(ctx, data[i].Data, data[i].Domain)",
  "if err != nil { results[i] = core.ResultFailed; continue }",
  "signature, err := signRoot(ctx, accounts[i], signingRoot[:])",
  "if err != nil { results[i] = core.ResultFailed; continue }",
  "results[i] = core.ResultSucceeded",
  "signatures[i] = signature"
]

/-- `SignBeaconAttestations` (services/signer/standard/signbeaconattestations.go), the length handed to util.Scatter for the final (signing) loop, as written; model counterpart: `Dirk.finishKeyedShort (the `take k`, `padUnknown`)`. -/
def signLoopBoundAttGen : String := "len(rulesResults)"

/-- … the header of the `for` loop inside its closure (`func(offset int, entries int, _ *sync.RWMutex) (any, error)`) -/
def signLoopIndexAttGen : String := "i := offset; i < offset+entries; i++"

/-- … the tag of the switch in its body, and the statement that defines the variable it reads -/
def signLoopSwitchTagAttGen : String := "rulesResults[i]"
def signLoopVerdictsAttGen : String := "rulesResults := s.ruler.RunRules(ctx, credentials, ruler.ActionSignBeaconAttestation, rulesData)"

/-- … how the returned result slice is created, the fill loops directly after that, and how the returned signature slice is created -/
def signLoopInitAttGen : String := "results := make([]core.Result, len(data))"
def signLoopInitFillAttGen : List String := ["for i := range results { results[i] = core.ResultUnknown }"]
def signLoopSigInitAttGen : String := "signatures := make([][]byte, len(data))"

/-- the guards of `SignBeaconAttestations`, as written in the source, in order -/
def signLoopBoundAttGuards : List String := [
  "results := make([]core.Result, len(data))",
  "for i := range results { results[i] = core.ResultUnknown }",
  "signatures := make([][]byte, len(data))",
  "rulesResults := s.ruler.RunRules(ctx, credentials, ruler.ActionSignBeaconAttestation, rulesData)",
  "util.Scatter(len(rulesResults), func(offset int, entries int, _ *sync.RWMutex) (any, error) { for i := offset; i < offset+entries; i++ { switch rulesResults[i] … } })",
  "return results, signatures"
]

/-- `Multisign` (services/signer/standard/multisign.go), the length handed to util.Scatter for the final (signing) loop, as written; model counterpart: `Dirk.multisignShort (the `take k`, `padUnknown`)`. -/
def signLoopBoundMultiGen : String := "len(rulesResults)"

/-- … the header of the `for` loop inside its closure (`func(offset int, entries int, _ *sync.RWMutex) (any, error)`) -/
def signLoopIndexMultiGen : String := "i := offset; i < offset+entries; i++"

/-- … the tag of the switch in its body, and the statement that defines the variable it reads -/
def signLoopSwitchTagMultiGen : String := "rulesResults[i]"
def signLoopVerdictsMultiGen : String := "rulesResults := s.ruler.RunRules(ctx, credentials, ruler.ActionSign, rulesData)"

/-- … how the returned result slice is created, the fill loops directly after that, and how the returned signature slice is created -/
def signLoopInitMultiGen : String := "results := make([]core.Result, len(data))"
def signLoopInitFillMultiGen : List String := ["for i := range results { results[i] = core.ResultUnknown }"]
def signLoopSigInitMultiGen : String := "signatures := make([][]byte, len(data))"

/-- the guards of `Multisign`, as written in the source, in order -/
def signLoopBoundMultiGuards : List String := [
  "results := make([]core.Result, len(data))",
  "for i := range results { results[i] = core.ResultUnknown }",
  "signatures := make([][]byte, len(data))",
  "rulesResults := s.ruler.RunRules(ctx, credentials, ruler.ActionSign, rulesData)",
  "util.Scatter(len(rulesResults), func(offset int, entries int, _ *sync.RWMutex) (any, error) { for i := offset; i < offset+entries; i++ { switch rulesResults[i] … } })",
  "return results, signatures"
]

/-- `fetchAccount` (services/signer/standard/helpers.go), the `core.Result` value returned and WHICH fetch was made on the way (0 none, 1 `FetchAccount(name)`, 2 `FetchAccountByKey(pubKey)`).
    nameEmpty: `name == ""`; keyNil: `pubKey == nil`; fetchByNameErr / fetchByKeyErr: that call returned an error; model counterpart: `Dirk.fetchAccount`. -/
def fetchAccountGen (nameEmpty keyNil fetchByNameErr fetchByKeyErr : Bool) : Nat × Nat :=
  if nameEmpty && keyNil then (2, 0)
  else if keyNil then
    if fetchByNameErr then (2, 1)
    else (1, 1)
  else if fetchByKeyErr then (2, 2)
  else (1, 2)

/-- the guards of `fetchAccount`, as written in the source, in order -/
def fetchAccountGuards : List String := [
  "if name == \"\" && pubKey == nil { return nil, nil, core.ResultDenied }",
  "var wallet e2wtypes.Wallet",
  "var account e2wtypes.Account",
  "var err error",
  "if pubKey == nil { wallet, account, err = s.fetcher.FetchAccount(ctx, name) } else { wallet, account, err = s.fetcher.FetchAccountByKey(ctx, pubKey) }",
  "if err != nil { return nil, nil, core.ResultDenied }",
  "return wallet, account, core.ResultSucceeded"
]

/-- `checkAccess` (services/signer/standard/helpers.go), the `core.Result` value returned.  checkerSaysYes: the result of `s.checker.Check(ctx, credentials, accountName, action)` (the function's own parameters, in this order); model counterpart: `Dirk.preCheck (the permission check)`. -/
def checkAccessGen (checkerSaysYes : Bool) : Nat :=
  if checkerSaysYes then 1
  else 2

/-- the guards of `checkAccess`, as written in the source, in order -/
def checkAccessGuards : List String := [
  "if s.checker.Check(ctx, credentials, accountName, action) { return core.ResultSucceeded }",
  "return core.ResultDenied"
]

/-- `unlockAccount` (services/signer/standard/helpers.go), the `core.Result` value returned.  walletNil / accountNil: the parameter is nil; isLocker: `account.(e2wtypes.AccountLocker)` holds;
    isUnlockedErr, isUnlocked: what `locker.IsUnlocked(ctx)` returned (error?, value); unlockErr, unlockOk: what
    `s.unlocker.UnlockAccount(ctx, wallet, account)` returned (error?, value); model counterpart: `Dirk.preCheck (its tail: `lockStateFail`, `acct.unlockable`)`. -/
def unlockAccountGen (walletNil accountNil isLocker isUnlockedErr isUnlocked unlockErr unlockOk : Bool) : Nat :=
  if walletNil then 2
  else if accountNil then 2
  else if !isLocker then 1
  else if isUnlockedErr then 3
  else if isUnlocked then 1
  else if unlockErr then 3
  else if !unlockOk then 2
  else 1

/-- the guards of `unlockAccount`, as written in the source, in order -/
def unlockAccountGuards : List String := [
  "if wallet == nil { return core.ResultDenied }",
  "if account == nil { return core.ResultDenied }",
  "locker, isLocker := account.(e2wtypes.AccountLocker)",
  "if !isLocker { return core.ResultSucceeded }",
  "unlocked, err := locker.IsUnlocked(ctx)",
  "if err != nil { return core.ResultFailed }",
  "if unlocked { return core.ResultSucceeded }",
  "unlocked, err = s.unlocker.UnlockAccount(ctx, wallet, account)",
  "if err != nil { return core.ResultFailed }",
  "if !unlocked { return core.ResultDenied }",
  "return core.ResultSucceeded"
]

/-- `preCheck` (services/signer/standard/helpers.go), the composition: the `core.Result` value returned, given what the three callees returned (as `core.Result` values).
    fetchRes / checkRes / unlockRes: the result of `s.fetchAccount(ctx, name, pubKey)` / `s.checkAccess(ctx, credentials, <preCheckCheckedNameGen>, action)` /
    `s.unlockAccount(ctx, wallet, account)` with wallet, account the values the fetchAccount call returned; model counterpart: `Dirk.preCheck`. -/
def preCheckGen (fetchRes checkRes unlockRes : Nat) : Nat :=
  if (fetchRes != 1) then fetchRes
  else if (checkRes != 1) then checkRes
  else if (unlockRes != 1) then unlockRes
  else 1

/-- … the expression handed to `checkAccess` as the account name, every local printed as its role (wallet, account = what the fetchAccount call returned) -/
def preCheckCheckedNameGen : String := "fmt.Sprintf(\"%s/%s\", wallet.Name(), account.Name())"

/-- … the same expression as a function of `wallet.Name()`, `account.Name()` and preCheck's string parameters -/
def preCheckCheckedNameFnGen (walletName accountName name action : String) : String :=
  walletName ++ "/" ++ accountName

/-- … the callees, in call order (each is a top-level statement of the body, made at most once) -/
def preCheckOrderGen : List String := ["fetchAccount", "checkAccess", "unlockAccount"]

/-- the guards of `preCheck`, as written in the source, in order -/
def preCheckGuards : List String := [
  "wallet, account, result := s.fetchAccount(ctx, name, pubKey)",
  "if result != core.ResultSucceeded { return nil, nil, result }",
  "accountName := fmt.Sprintf(\"%s/%s\", wallet.Name(), account.Name())",
  "result = s.checkAccess(ctx, credentials, accountName, action)",
  "if result != core.ResultSucceeded { return nil, nil, result }",
  "result = s.unlockAccount(ctx, wallet, account)",
  "if result != core.ResultSucceeded { return nil, nil, result }",
  "return wallet, account, core.ResultSucceeded"
]

/-- (fixed text, not translated from any source) what a Go loop `for i := range xs { if C₁(i) { r[i] = v₁; return r }; …; if Cₘ(i) { r[i] = vₘ; return r } }`
    does, given for each guard IN SOURCE ORDER the first index at which its condition holds (`none`: at no index) and
    the value it writes: it returns at the SMALLEST of these indices, through the guard that comes first in the source
    among those whose condition holds there; `none`: the loop runs to its end.  (Dirk/Props/Kernels/Ruler.lean,
    `scanExit_eq_run`, proves this against a step-by-step execution of such a loop.) -/
def scanExitGen : List (Option Nat × Nat) → Option (Nat × Nat)
  | [] => none
  | (none, _) :: rest => scanExitGen rest
  | (some i, v) :: rest =>
    match scanExitGen rest with
    | some (j, w) => if j < i then some (j, w) else some (i, v)
    | none => some (i, v)

/-- (fixed text) `var key [w]byte; copy(key[:], pubKey)`: the first w bytes of pubKey, zero padded -/
def keyOfWidthGen (w : Nat) (pubKey : Bytes) : Bytes := (pubKey ++ List.replicate w 0).take w

/-- `RunRules` (services/ruler/golang/runner.go), the checks made before any lock is taken.  `none`: they pass (the locks are taken if `locking`, and `runRules` is called);
    `some l`: the list returned early, as `rules.Result` enumerator values (`rulesResultValuesGen`).
    n = `len(rulesData)`; locking = the condition of the locking `if` (`runRulesIsLockingGen action`).  Each `first…` parameter is the
    least i < n at which the corresponding condition, read as a predicate of the index i alone, holds (`none`: at no i < n):
    firstNil: `rulesData[i] == nil`; firstNilData: `rulesData[i].Data == nil`; firstEmptyKey: `len(rulesData[i].PubKey) == 0`;
    firstDupKey: `pubKeyMap[key]` exists, i.e. the key of entry i (`runRulesKeyGen`) equals the key of an entry j < i — the map is
    created empty before the loop and entry j's key is inserted at the end of iteration j, the only writes to it.
    Where the Go cannot evaluate a condition (a guard before it returns first, or an earlier loop has returned) its value is
    irrelevant: `scanExitGen` only looks at the smallest index, ties going to the guard that comes first in the source.
    One `match scanExitGen […]` per Go loop, in source order, the guards of a loop in source order; model counterpart: `Dirk.firstDup / the refusals of Dirk.signAtts, Dirk.multisign before the rules`. -/
def runRulesValidateGen (n : Nat) (firstNil firstNilData : Option Nat) (locking : Bool) (firstEmptyKey firstDupKey : Option Nat) : Option (List Nat) :=
  if n = 0 then some [3]
  else match scanExitGen [(firstNil, 3), (firstNilData, 3)] with
  | some (i, v) => some ((List.replicate n 0).set i v)
  | none =>
    if locking then
      (match scanExitGen [(firstEmptyKey, 3), (firstDupKey, 3)] with
       | some (i, v) => some ((List.replicate n 0).set i v)
       | none =>
         none)
    else
      none

/-- … the actions for which the checks on the keys are made and the locks are taken: the names compared with in the condition of the
    locking `if` (`action == ruler.ActionSign || action == ruler.ActionSignBeaconProposal || action == ruler.ActionSignBeaconAttestation`), by VALUE (services/ruler/service.go: declared with a string literal, and — being variables — assigned to nowhere in the
    repository's non-test files), in source order -/
def runRulesLockingActionsGen : List String := ["Sign", "Sign beacon proposal", "Sign beacon attestation"]

/-- … that condition itself -/
def runRulesIsLockingGen (action : String) : Bool :=
  action == "Sign" || action == "Sign beacon proposal" || action == "Sign beacon attestation"

/-- … how the key of the duplicate check's map is built (locals printed as their roles), its width in bytes, and the same as a function -/
def runRulesDupKeyExprGen : String := "var key [48]byte; copy(key[:], rulesData[i].PubKey)"
def runRulesKeyWidthGen : Nat := 48
def runRulesKeyGen (pubKey : Bytes) : Bytes := keyOfWidthGen 48 pubKey

/-- the guards of `RunRules`, as written in the source, in order -/
def runRulesValidateGuards : List String := [
  "if len(rulesData) == 0 { return []rules.Result{rules.FAILED} }",
  "results := make([]rules.Result, len(rulesData))",
  "for i := range rulesData { results[i] = rules.UNKNOWN }",
  "for i := range rulesData { if rulesData[i] == nil { results[i] = rules.FAILED; return results }; if rulesData[i].Data == nil { results[i] = rules.FAILED; return results } }",
  "if action == ruler.ActionSign || action == ruler.ActionSignBeaconProposal || action == ruler.ActionSignBeaconAttestation {",
  "pubKeyMap := make(map[[48]byte]bool)",
  "for i := range rulesData { var key [48]byte; if len(rulesData[i].PubKey) == 0 { results[i] = rules.FAILED; return results }; copy(key[:], rulesData[i].PubKey); if _, exists := pubKeyMap[key]; exists { results[i] = rules.FAILED; return results }; pubKeyMap[key] = true }",
  "}",
  "return s.runRules(ctx, credentials, action, rulesData)"
]

/-- `RunRules` (services/ruler/golang/runner.go), the locker calls and the rules call of the locking actions, in source order, loops made explicit, locals printed as
    their roles (`keyW(PubKey)` = `var key [W]byte; copy(key[:], rulesData[i].PubKey)`).  Nothing else in the function touches the locker,
    there is no `go` statement, no return between the first and the last of them except the one shown, every loop is `for i := range rulesData`; model counterpart: `Dirk.lockWrap (Model/LockTrace.lean), the thread program of Model/Conc.lean`. -/
def runRulesLockProtocolGen : List String := ["PreLock", "for-each-in-order: Lock(key48(PubKey)); defer Unlock(key48(PubKey))", "PostLock", "return runRules"]

/-- … the width of the key handed to `Lock` -/
def runRulesLockKeyWidthGen : Nat := 48

/-- … the calls this makes for the concrete public keys `keys` (in request order) when the rules call makes the calls `inner`,
    DERIVED from the list above: a `for i := range` loop visits the keys in order; a `defer` registered in such a loop runs when the
    function returns — after the rules call — last registered first, hence `keys.reverse` -/
def lockCallsTokGen {τ : Type} (pre post : τ) (lock unlock : Bytes → τ) (keys : List Bytes) (inner : List τ) : List τ :=
  [pre] ++ keys.map (fun k => lock (keyOfWidthGen 48 k)) ++ [post] ++ inner ++ keys.reverse.map (fun k => unlock (keyOfWidthGen 48 k))

/-- … the same with strings as tokens -/
def lockTokGen (k : Bytes) : String := "lock " ++ toString k
def unlockTokGen (k : Bytes) : String := "unlock " ++ toString k
def lockCallsGen (keys : List Bytes) (inner : List String) : List String :=
  lockCallsTokGen "pre" "post" lockTokGen unlockTokGen keys inner

/-- the guards of `RunRules`, as written in the source, in order -/
def runRulesLockProtocolGuards : List String := [
  "if action == ruler.ActionSign || action == ruler.ActionSignBeaconProposal || action == ruler.ActionSignBeaconAttestation {",
  "s.locker.PreLock()",
  "for i := range rulesData { var key [48]byte; copy(key[:], rulesData[i].PubKey); s.locker.Lock(key); defer s.locker.Unlock(key) }",
  "s.locker.PostLock()",
  "}",
  "return s.runRules(ctx, credentials, action, rulesData)"
]

/-- `runRules` (services/ruler/golang/runner.go), its first statement, the choice of the path: 1 = the batch path (`return s.runRulesForMultipleBeaconAttestations(ctx, credentials, rulesData)`),
    0 = the per-entry path (the rest of the function).  n = `len(rulesData)`; isAttestation: `action == ruler.ActionSignBeaconAttestation`; model counterpart: `Dirk.rulesKeyed (single rule vs. Dirk.onAttestBatch)`. -/
def runRulesPathGen (n : Nat) (isAttestation : Bool) : Nat :=
  if decide (n > 1) && isAttestation then 1
  else 0

/-- … the value of `ruler.ActionSignBeaconAttestation` (services/ruler/service.go) -/
def runRulesAttestationActionGen : String := "Sign beacon attestation"

/-- the guards of `runRules`, as written in the source, in order -/
def runRulesPathGuards : List String := [
  "if len(rulesData) > 1 && action == ruler.ActionSignBeaconAttestation { return s.runRulesForMultipleBeaconAttestations(ctx, credentials, rulesData) }",
  "(the per-entry path)"
]

/-- `ListAccounts` (services/lister/standard/listaccounts.go), the string handed to `regexp.Compile`, as a function of the account part of the path (the second result of `e2wallet.WalletAndAccountNames(path)`):
    every assignment to that local between the call that produced it and `regexp.Compile`, in source order, as one `let` each
    (`if C { x = e }` ↦ `if C then e else x`; `strings.HasPrefix` / `HasSuffix` ↦ `String.startsWith` / `endsWith`; `fmt.Sprintf` of `%s` verbs ↦ `++`); model counterpart: `Dirk.listerAnchor`. -/
def listAnchorGen (accountPath : String) : String :=
  let p1 := if !(String.startsWith accountPath "^") then "^" ++ accountPath else accountPath
  let p2 := if !(String.endsWith p1 "$") then p1 ++ "$" else p1
  p2

/-- the guards of `ListAccounts`, as written in the source, in order -/
def listAnchorGuards : List String := [
  "if !strings.HasPrefix(accountPath, \"^\") { accountPath = fmt.Sprintf(\"^%s\", accountPath) }",
  "if !strings.HasSuffix(accountPath, \"$\") { accountPath = fmt.Sprintf(\"%s$\", accountPath) }",
  "accountRegex, err = regexp.Compile(accountPath)"
]

/-- `ListAccounts` (services/lister/standard/listaccounts.go), the body of the path loop up to the account loop, for ONE path: 0 = the path is skipped (`continue`, or the account loop is not reached),
    1 = the account loop is reached with the regular expression nil (every account of the wallet is a candidate), 2 = it is reached with a compiled
    expression (the candidates are the accounts it matches).  namesErr: `e2wallet.WalletAndAccountNames(path)` returned an error; walletEmpty / accountEmpty:
    its first / second result is "" (the second: as returned, before the anchoring); compileErr: `regexp.Compile(listAnchorGen …)` returned an error (then
    the expression is nil); fetchWalletErr / fetchAccountsErr: `s.fetcher.FetchWallet(ctx, path)` / `s.fetcher.FetchAccounts(ctx, wallet.Name())` returned an error.
    An input is only read where the Go has made the call.  `break`, `return`, labels are refused; model counterpart: `Dirk.listerPath`. -/
def listPathGen (namesErr walletEmpty accountEmpty compileErr fetchWalletErr fetchAccountsErr : Bool) : Nat :=
  if namesErr then 0
  else if walletEmpty then 0
  else if !accountEmpty then
    if compileErr then 0
    else if fetchWalletErr then 0
    else if fetchAccountsErr then 0
    else 2
  else if fetchWalletErr then 0
  else if fetchAccountsErr then 0
  else 1

/-- the guards of `ListAccounts`, as written in the source, in order -/
def listPathGuards : List String := [
  "walletName, accountPath, err := e2wallet.WalletAndAccountNames(path)",
  "if err != nil { continue }",
  "if walletName == \"\" { continue }",
  "var accountRegex *regexp.Regexp",
  "if accountPath != \"\" { if !strings.HasPrefix(accountPath, \"^\") { accountPath = fmt.Sprintf(\"^%s\", accountPath) }; if !strings.HasSuffix(accountPath, \"$\") { accountPath = fmt.Sprintf(\"%s$\", accountPath) }; accountRegex, err = regexp.Compile(accountPath); if err != nil { continue } }",
  "wallet, err := s.fetcher.FetchWallet(ctx, path)",
  "if err != nil { continue }",
  "walletAccounts, err := s.fetcher.FetchAccounts(ctx, wallet.Name())",
  "if err != nil { continue }",
  "for _, walletAccount := range walletAccounts { … }"
]

/-- `ListAccounts` (services/lister/standard/listaccounts.go), the body of the account loop, for ONE account of the wallet: is `accounts = append(accounts, walletAccount)` executed?  hasRegex: the regular
    expression is not nil (`listPathGen … = 2`); regexMatches: `MatchString(<listShapeGen: regex matched against>)` (only called where the expression is known
    to be non-nil); accessOk: `s.checkAccess(ctx, credentials, <checkAccess name>, <checkAccess action>)` returned `core.ResultSucceeded`; hasPubKey: the type
    assertion `walletAccount.(e2wtypes.AccountPublicKeyProvider)` holds; rulesApproved: `s.ruler.RunRules(ctx, credentials, <RunRules action>, <RunRules data>)[0]`
    is `rules.APPROVED`.  An input is only read where the Go has made the call.  `break`, `return`, a second append are refused; model counterpart: `Dirk.listAccounts (the filter predicate)`. -/
def listAccountGen (hasRegex regexMatches accessOk hasPubKey rulesApproved : Bool) : Bool :=
  if !hasRegex || regexMatches then
    if !accessOk then false
    else if !hasPubKey then false
    else if rulesApproved then true
    else false
  else false

/-- … the name handed to `checkAccess`, as a function of `wallet.Name()` and `walletAccount.Name()` -/
def listCheckedNameFnGen (walletName accountName : String) : String :=
  walletName ++ "/" ++ accountName

/-- … the action handed to `checkAccess`, by value (services/ruler/service.go) -/
def listActionGen : String := "Access account"

/-- the guards of `ListAccounts`, as written in the source, in order -/
def listAccountGuards : List String := [
  "if accountRegex == nil || accountRegex.MatchString(walletAccount.Name()) { accountName := fmt.Sprintf(\"%s/%s\", wallet.Name(), walletAccount.Name()); checkRes := s.checkAccess(ctx, credentials, accountName, ruler.ActionAccessAccount); if checkRes != core.ResultSucceeded { continue }; var pubKey []byte; pubKeyProvider, isProvider := walletAccount.(e2wtypes.AccountPublicKeyProvider); if !isProvider { continue }; pubKey = pubKeyProvider.PublicKey().Marshal(); if compositePubKeyProvider, isProvider := walletAccount.(e2wtypes.AccountCompositePublicKeyProvider); isProvider { pubKey = compositePubKeyProvider.CompositePublicKey().Marshal() }; data := &rules.AccessAccountData{ Paths: paths, }; rulesData := []*ruler.RulesData{ { WalletName: wallet.Name(), AccountName: walletAccount.Name(), PubKey: pubKey, Data: data, }, }; results := s.ruler.RunRules(ctx, credentials, ruler.ActionAccessAccount, rulesData); if results[0] == rules.APPROVED { accounts = append(accounts, walletAccount) } }"
]

/-- `ListAccounts` (services/lister/standard/listaccounts.go), canonical facts, every local printed as its ROLE (path = the path loop's variable; walletName, accountPath = the results of WalletAndAccountNames; wallet = what
    FetchWallet returned; walletAccounts = what FetchAccounts returned; walletAccount = the account loop's variable; accounts = the slice returned), string and data
    locals inlined, `ruler.ActionX` by value (services/ruler/service.go).  Both loops are plain `for _, x := range` loops (in order); the only write to `accounts`
    is the append shown, so the result is the concatenation over the paths, in path order, of the appended accounts in the order FetchAccounts gave them; model counterpart: `Dirk.listAccounts (what is handed to which call; flatMap over the paths, filter over the accounts)`. -/
def listShapeGen : List String := [
  "nil credentials: return core.ResultFailed, nil",
  "result slice: accounts := make([]e2wtypes.Account, 0), before the path loop",
  "path loop: for _, path := range paths",
  "names: e2wallet.WalletAndAccountNames(path)",
  "wallet: FetchWallet(ctx, path)",
  "accounts of: FetchAccounts(ctx, wallet.Name())",
  "account loop: for _, walletAccount := range walletAccounts",
  "regex matched against: walletAccount.Name()",
  "checkAccess name: fmt.Sprintf(\"%s/%s\", wallet.Name(), walletAccount.Name())",
  "checkAccess action: Access account",
  "RunRules action: Access account",
  "RunRules data: []*ruler.RulesData{{WalletName: wallet.Name(), AccountName: walletAccount.Name(), PubKey: pubKey, Data: &rules.AccessAccountData{Paths: paths}}}",
  "append: accounts = append(accounts, walletAccount)",
  "finally: return core.ResultSucceeded, accounts"
]

/-- the guards of `ListAccounts`, as written in the source, in order -/
def listShapeGuards : List String := [
  "if credentials == nil { return core.ResultFailed, nil }",
  "accounts := make([]e2wtypes.Account, 0)",
  "for _, path := range paths { … }",
  "return core.ResultSucceeded, accounts"
]

/-- `validateSignBeaconAttestationsRequests` (services/api/grpc/handlers/signer/signbeaconattestations.go), the function `SignBeaconAttestations` calls on the request: the guards of its loop `for i, request := range req.GetRequests()`
    applied to ONE entry, in source order.  `some s`: the guard writes `pb.ResponseState_s` into `res.Responses[i].State` and the function
    RETURNS (later entries are not looked at); `none`: the entry passes every guard.  Inputs: entryNil: `request == nil`; accountEmpty: `request.GetAccount() == ""`; keyNil: `request.GetPublicKey() == nil`; nameHasSlash: `strings.Contains(request.GetAccount(), "/")`; dataNil: `request.GetData() == nil`; sourceNil: `request.GetData().GetSource() == nil`; targetNil: `request.GetData().GetTarget() == nil`
    (generated getters: nil-safe); model counterpart: `Dirk.handlerRejects (inside Dirk.firstRejected)`. -/
def attsEntryVerdictGen (entryNil accountEmpty keyNil nameHasSlash dataNil sourceNil targetNil : Bool) : Option String :=
  if entryNil then some "FAILED"
  else if accountEmpty && keyNil then some "DENIED"
  else if !accountEmpty && !nameHasSlash then some "DENIED"
  else if dataNil then some "DENIED"
  else if sourceNil then some "DENIED"
  else if targetNil then some "DENIED"
  else none

/-- the statements of `validateSignBeaconAttestationsRequests`'s loop the definitions above were translated from, locals printed as their roles, in order -/
def attsEntryVerdictGuards : List String := [
  "if request == nil { res.Responses[i].State = pb.ResponseState_FAILED; return }",
  "if request.GetAccount() == \"\" && request.GetPublicKey() == nil { res.Responses[i].State = pb.ResponseState_DENIED; return }",
  "if request.GetAccount() != \"\" && !strings.Contains(request.GetAccount(), \"/\") { res.Responses[i].State = pb.ResponseState_DENIED; return }",
  "if request.GetData() == nil { res.Responses[i].State = pb.ResponseState_DENIED; return }",
  "if request.GetData().GetSource() == nil { res.Responses[i].State = pb.ResponseState_DENIED; return }",
  "if request.GetData().GetTarget() == nil { res.Responses[i].State = pb.ResponseState_DENIED; return }"
]

/-- `validateMultisignRequests` (services/api/grpc/handlers/signer/multisign.go), the function `Multisign` calls on the request: the guards of its loop `for i, request := range req.GetRequests()`
    applied to ONE entry, in source order.  `some s`: the guard writes `pb.ResponseState_s` into `res.Responses[i].State` and the function
    RETURNS (later entries are not looked at); `none`: the entry passes every guard.  Inputs: entryNil: `request == nil`; accountEmpty: `request.GetAccount() == ""`; keyNil: `request.GetPublicKey() == nil`; nameHasSlash: `strings.Contains(request.GetAccount(), "/")`; dataNil: `request.GetData() == nil`; domainNil: `request.GetDomain() == nil`
    (generated getters: nil-safe); model counterpart: `the predicate of Dirk.firstRejectedSign`. -/
def msignEntryVerdictGen (entryNil accountEmpty keyNil nameHasSlash dataNil domainNil : Bool) : Option String :=
  if entryNil then some "FAILED"
  else if accountEmpty && keyNil then some "DENIED"
  else if !accountEmpty && !nameHasSlash then some "DENIED"
  else if dataNil then some "DENIED"
  else if domainNil then some "DENIED"
  else none

/-- the statements of `validateMultisignRequests`'s loop the definitions above were translated from, locals printed as their roles, in order -/
def msignEntryVerdictGuards : List String := [
  "if request == nil { res.Responses[i].State = pb.ResponseState_FAILED; return }",
  "if request.GetAccount() == \"\" && request.GetPublicKey() == nil { res.Responses[i].State = pb.ResponseState_DENIED; return }",
  "if request.GetAccount() != \"\" && !strings.Contains(request.GetAccount(), \"/\") { res.Responses[i].State = pb.ResponseState_DENIED; return }",
  "if request.GetData() == nil { res.Responses[i].State = pb.ResponseState_DENIED; return }",
  "if request.GetDomain() == nil { res.Responses[i].State = pb.ResponseState_DENIED; return }"
]

/-- the enumerators of `pb.ResponseState` (github.com/wealdtech/eth2-signer-api v1.7.2, pb/v1/responsestate.pb.go, found in the vendor directory or the module cache) with their values,
    `ResponseState_` stripped; `none` when the module's source cannot be located.  The kernels below name states by these NAMES. -/
def pbResponseStateValuesGen : Option (List (String × Nat)) := some [("UNKNOWN", 0), ("SUCCEEDED", 1), ("DENIED", 2), ("FAILED", 3)]

/-- (fixed text, not translated from any source) what a Go loop `for i, e := range xs { if C₁(e) { r[i].State = v₁; return }; …; if Cₘ(e) { r[i].State = vₘ; return } }`
    does, given for every entry IN ORDER the verdict of its guards (`some v`: a guard holds, the first that does writes v; `none`: no guard
    holds): it stops at the FIRST entry whose verdict is `some v`, having written v at that index and nothing anywhere else. -/
def firstBadGen : List (Option String) → Option (Nat × String)
  | [] => none
  | some v :: _ => some (0, v)
  | none :: rest => (firstBadGen rest).map (fun p => (p.1 + 1, p.2))

/-- the handlers' exits before any per-entry response exists, in source order: `some l` = the states of the responses returned, `none` = the handler goes on.
    reqNil: `req == nil`; n: `len(req.GetRequests())` (0 for a nil request: the getter is nil-safe); model counterpart: `the `items.isEmpty` branch of Dirk.hSignAtts / Dirk.hMultisign`.
    (`SignBeaconAttestations` and `Multisign` give the same definition: the `if`s before `res.Responses = make(…, len(req.GetRequests()))`) -/
def batchEarlyGen (reqNil : Bool) (n : Nat) : Option (List String) :=
  if reqNil then some ["DENIED"]
  else if (n == 0) then some ["DENIED"]
  else none

/-- … the two handlers were translated separately and the results are textually identical -/
def batchEarlySameInBothGen : Bool := true

/-- the statements of the two handlers the definitions above were translated from, locals printed as their roles, in order -/
def batchEarlyGuards : List String := [
  "SignBeaconAttestations: if req == nil { res.Responses = make([]*pb.SignResponse, 1); res.Responses[0] = &pb.SignResponse{State: pb.ResponseState_DENIED}; return res, nil }",
  "SignBeaconAttestations: if len(req.GetRequests()) == 0 { res.Responses = make([]*pb.SignResponse, 1); res.Responses[0] = &pb.SignResponse{State: pb.ResponseState_DENIED}; return res, nil }",
  "Multisign: if req == nil { res.Responses = make([]*pb.SignResponse, 1); res.Responses[0] = &pb.SignResponse{State: pb.ResponseState_DENIED}; return res, nil }",
  "Multisign: if len(req.GetRequests()) == 0 { res.Responses = make([]*pb.SignResponse, 1); res.Responses[0] = &pb.SignResponse{State: pb.ResponseState_DENIED}; return res, nil }"
]

/-- what the handlers return right after the validation: the n = `len(req.GetRequests())` responses are created in the state shown by `List.replicate`,
    the validation writes at most one of them — firstBad = `some (i, v)`: it stopped at entry i and wrote v there, CONTRACT: i is the least index < n whose
    entry verdict (`attsEntryVerdictGen` / `msignEntryVerdictGen`) is `some v`, i.e. `firstBadGen` of the entries' verdicts; `none`: every entry passed —
    and the loop after it returns the responses as soon as ONE of them is in a state of the test shown; `none`: it does not, the signer is called;
    model counterpart: `the `firstRejected … = some i` branch of Dirk.hSignAtts / Dirk.hMultisign`.
    (`SignBeaconAttestations` and `Multisign` give the same definition: creation state, early-return test) -/
def batchAfterValidateGen (n : Nat) (firstBad : Option (Nat × String)) : Option (List String) :=
  let responses := match firstBad with
    | some (i, v) => (List.replicate n "UNKNOWN").set i v
    | none => List.replicate n "UNKNOWN"
  if responses.any (fun s => s == "DENIED" || s == "FAILED") then some responses else none

/-- … the two handlers were translated separately and the results are textually identical -/
def batchAfterValidateSameInBothGen : Bool := true

/-- the statements of the two handlers the definitions above were translated from, locals printed as their roles, in order -/
def batchAfterValidateGuards : List String := [
  "SignBeaconAttestations: res.Responses = make([]*pb.SignResponse, len(req.GetRequests()))",
  "SignBeaconAttestations: for i := range req.GetRequests() { res.Responses[i] = &pb.SignResponse{State: pb.ResponseState_UNKNOWN} }",
  "SignBeaconAttestations: validateSignBeaconAttestationsRequests(ctx, req, res)",
  "SignBeaconAttestations: validateSignBeaconAttestationsRequests: for i, request := range req.GetRequests() { if request == nil { res.Responses[i].State = pb.ResponseState_FAILED; return }; if request.GetAccount() == \"\" && request.GetPublicKey() == nil { res.Responses[i].State = pb.ResponseState_DENIED; return }; if request.GetAccount() != \"\" && !strings.Contains(request.GetAccount(), \"/\") { res.Responses[i].State = pb.ResponseState_DENIED; return }; if request.GetData() == nil { res.Responses[i].State = pb.ResponseState_DENIED; return }; if request.GetData().GetSource() == nil { res.Responses[i].State = pb.ResponseState_DENIED; return }; if request.GetData().GetTarget() == nil { res.Responses[i].State = pb.ResponseState_DENIED; return } }",
  "SignBeaconAttestations: for i := range req.GetRequests() { if res.Responses[i].State == pb.ResponseState_DENIED || res.Responses[i].State == pb.ResponseState_FAILED { return res, nil } }",
  "Multisign: res.Responses = make([]*pb.SignResponse, len(req.GetRequests()))",
  "Multisign: for i := range req.GetRequests() { res.Responses[i] = &pb.SignResponse{State: pb.ResponseState_UNKNOWN} }",
  "Multisign: validateMultisignRequests(ctx, req, res)",
  "Multisign: validateMultisignRequests: for i, request := range req.GetRequests() { if request == nil { res.Responses[i].State = pb.ResponseState_FAILED; return }; if request.GetAccount() == \"\" && request.GetPublicKey() == nil { res.Responses[i].State = pb.ResponseState_DENIED; return }; if request.GetAccount() != \"\" && !strings.Contains(request.GetAccount(), \"/\") { res.Responses[i].State = pb.ResponseState_DENIED; return }; if request.GetData() == nil { res.Responses[i].State = pb.ResponseState_DENIED; return }; if request.GetDomain() == nil { res.Responses[i].State = pb.ResponseState_DENIED; return } }",
  "Multisign: for i := range req.GetRequests() { if res.Responses[i].State == pb.ResponseState_DENIED || res.Responses[i].State == pb.ResponseState_FAILED { return res, nil } }"
]

/-- the `switch results[i]` that ends the handlers, arm by arm in source order, on `core.Result` VALUES (`coreResultValuesGen`): the state response i ends in and whether
    `res.Responses[i].Signature = signatures[i]` is executed.  A value no arm names (last line) leaves the response as it was created — every response is still in
    its creation state when the signer is called, every state the validation writes being caught by the early-return test; model counterpart: `Dirk.respond`.
    (`SignBeaconAttestations` and `Multisign` give the same definition: arms, states, signature copies) -/
def resultToStateGen (coreResult : Nat) : String × Bool :=
  if coreResult = 1 then ("SUCCEEDED", true)
  else if coreResult = 2 then ("DENIED", false)
  else if coreResult = 3 then ("FAILED", false)
  else if coreResult = 0 then ("UNKNOWN", false)
  else ("UNKNOWN", false)

/-- … the two handlers were translated separately and the results are textually identical -/
def resultToStateSameInBothGen : Bool := true

/-- the statements of the two handlers the definitions above were translated from, locals printed as their roles, in order -/
def resultToStateGuards : List String := [
  "SignBeaconAttestations: case core.ResultSucceeded: res.Responses[i].State = pb.ResponseState_SUCCEEDED; res.Responses[i].Signature = signatures[i]",
  "SignBeaconAttestations: case core.ResultDenied: res.Responses[i].State = pb.ResponseState_DENIED",
  "SignBeaconAttestations: case core.ResultFailed: res.Responses[i].State = pb.ResponseState_FAILED",
  "SignBeaconAttestations: case core.ResultUnknown: res.Responses[i].State = pb.ResponseState_UNKNOWN",
  "Multisign: case core.ResultSucceeded: res.Responses[i].State = pb.ResponseState_SUCCEEDED; res.Responses[i].Signature = signatures[i]",
  "Multisign: case core.ResultDenied: res.Responses[i].State = pb.ResponseState_DENIED",
  "Multisign: case core.ResultFailed: res.Responses[i].State = pb.ResponseState_FAILED",
  "Multisign: case core.ResultUnknown: res.Responses[i].State = pb.ResponseState_UNKNOWN"
]

/-- `SignBeaconAttestations` and `Multisign` (services/api/grpc/handlers/signer/*.go), canonical facts about the batch path, locals printed as their roles; a fact that reads the same
    in both handlers is listed once, the others once per handler.  The handlers' bodies consist of exactly the statements of `handlerShapeGuards` (and log calls); model counterpart: `Dirk.hSignAtts / Dirk.hMultisign (one response per entry, validation before the signer, `respond` after it)`. -/
def handlerShapeGen : List String := [
  "responses: res.Responses = make([]*pb.SignResponse, len(req.GetRequests())); for i := range req.GetRequests() { res.Responses[i] = &pb.SignResponse{State: pb.ResponseState_UNKNOWN} }",
  "validation [SignBeaconAttestations]: validateSignBeaconAttestationsRequests(ctx, req, res) is called after the responses are created and before the signer",
  "validation [Multisign]: validateMultisignRequests(ctx, req, res) is called after the responses are created and before the signer",
  "early return: for i := range req.GetRequests() { if res.Responses[i].State == pb.ResponseState_DENIED || res.Responses[i].State == pb.ResponseState_FAILED { return res, nil } }",
  "accountNames: accountNames := make([]string, len(req.GetRequests())); for i, request := range req.GetRequests(): accountNames[i] = request.GetAccount()",
  "pubKeys: pubKeys := make([][]byte, len(req.GetRequests())); for i, request := range req.GetRequests(): pubKeys[i] = request.GetPublicKey()",
  "reqData [SignBeaconAttestations]: reqData := make([]*rules.SignBeaconAttestationData, len(req.GetRequests())); for i, request := range req.GetRequests(): reqData[i] = &rules.SignBeaconAttestationData{Domain: request.GetDomain(), Slot: request.GetData().GetSlot(), CommitteeIndex: request.GetData().GetCommitteeIndex(), BeaconBlockRoot: request.GetData().GetBeaconBlockRoot(), Source: &rules.Checkpoint{Epoch: request.GetData().GetSource().GetEpoch(), Root: request.GetData().GetSource().GetRoot()}, Target: &rules.Checkpoint{Epoch: request.GetData().GetTarget().GetEpoch(), Root: request.GetData().GetTarget().GetRoot()}}",
  "reqData [Multisign]: reqData := make([]*rules.SignData, len(req.GetRequests())); for i, request := range req.GetRequests(): reqData[i] = &rules.SignData{Domain: request.GetDomain(), Data: request.GetData()}",
  "signer call [SignBeaconAttestations]: results, signatures := h.signer.SignBeaconAttestations(ctx, handlers.GenerateCredentials(ctx), accountNames, pubKeys, reqData) (the only call of the signer, after the early-return loop)",
  "signer call [Multisign]: results, signatures := h.signer.Multisign(ctx, handlers.GenerateCredentials(ctx), accountNames, pubKeys, reqData) (the only call of the signer, after the early-return loop)",
  "result loop: for i := range results { switch results[i] { … } }: response i takes the state and the signature the arm of results[i] gives it",
  "return: return res, nil"
]

/-- the statements of the two handlers the definitions above were translated from, locals printed as their roles, in order -/
def handlerShapeGuards : List String := [
  "SignBeaconAttestations: res := &pb.MultisignResponse{}",
  "SignBeaconAttestations: if req == nil { res.Responses = make([]*pb.SignResponse, 1); res.Responses[0] = &pb.SignResponse{State: pb.ResponseState_DENIED}; return res, nil }",
  "SignBeaconAttestations: if len(req.GetRequests()) == 0 { res.Responses = make([]*pb.SignResponse, 1); res.Responses[0] = &pb.SignResponse{State: pb.ResponseState_DENIED}; return res, nil }",
  "SignBeaconAttestations: res.Responses = make([]*pb.SignResponse, len(req.GetRequests()))",
  "SignBeaconAttestations: for i := range req.GetRequests() { res.Responses[i] = &pb.SignResponse{State: pb.ResponseState_UNKNOWN} }",
  "SignBeaconAttestations: validateSignBeaconAttestationsRequests(ctx, req, res)",
  "SignBeaconAttestations: validateSignBeaconAttestationsRequests: for i, request := range req.GetRequests() { if request == nil { res.Responses[i].State = pb.ResponseState_FAILED; return }; if request.GetAccount() == \"\" && request.GetPublicKey() == nil { res.Responses[i].State = pb.ResponseState_DENIED; return }; if request.GetAccount() != \"\" && !strings.Contains(request.GetAccount(), \"/\") { res.Responses[i].State = pb.ResponseState_DENIED; return }; if request.GetData() == nil { res.Responses[i].State = pb.ResponseState_DENIED; return }; if request.GetData().GetSource() == nil { res.Responses[i].State = pb.ResponseState_DENIED; return }; if request.GetData().GetTarget() == nil { res.Responses[i].State = pb.ResponseState_DENIED; return } }",
  "SignBeaconAttestations: for i := range req.GetRequests() { if res.Responses[i].State == pb.ResponseState_DENIED || res.Responses[i].State == pb.ResponseState_FAILED { return res, nil } }",
  "SignBeaconAttestations: accountNames := make([]string, len(req.GetRequests()))",
  "SignBeaconAttestations: pubKeys := make([][]byte, len(req.GetRequests()))",
  "SignBeaconAttestations: reqData := make([]*rules.SignBeaconAttestationData, len(req.GetRequests()))",
  "SignBeaconAttestations: for i, request := range req.GetRequests() { accountNames[i] = request.GetAccount(); pubKeys[i] = request.GetPublicKey(); reqData[i] = &rules.SignBeaconAttestationData{Domain: request.GetDomain(), Slot: request.GetData().GetSlot(), CommitteeIndex: request.GetData().GetCommitteeIndex(), BeaconBlockRoot: request.GetData().GetBeaconBlockRoot(), Source: &rules.Checkpoint{Epoch: request.GetData().GetSource().GetEpoch(), Root: request.GetData().GetSource().GetRoot()}, Target: &rules.Checkpoint{Epoch: request.GetData().GetTarget().GetEpoch(), Root: request.GetData().GetTarget().GetRoot()}} }",
  "SignBeaconAttestations: results, signatures := h.signer.SignBeaconAttestations(ctx, handlers.GenerateCredentials(ctx), accountNames, pubKeys, reqData)",
  "SignBeaconAttestations: for i := range results { switch results[i] { case core.ResultSucceeded: res.Responses[i].State = pb.ResponseState_SUCCEEDED; res.Responses[i].Signature = signatures[i] case core.ResultDenied: res.Responses[i].State = pb.ResponseState_DENIED case core.ResultFailed: res.Responses[i].State = pb.ResponseState_FAILED case core.ResultUnknown: res.Responses[i].State = pb.ResponseState_UNKNOWN } }",
  "SignBeaconAttestations: return res, nil",
  "Multisign: res := &pb.MultisignResponse{}",
  "Multisign: if req == nil { res.Responses = make([]*pb.SignResponse, 1); res.Responses[0] = &pb.SignResponse{State: pb.ResponseState_DENIED}; return res, nil }",
  "Multisign: if len(req.GetRequests()) == 0 { res.Responses = make([]*pb.SignResponse, 1); res.Responses[0] = &pb.SignResponse{State: pb.ResponseState_DENIED}; return res, nil }",
  "Multisign: res.Responses = make([]*pb.SignResponse, len(req.GetRequests()))",
  "Multisign: for i := range req.GetRequests() { res.Responses[i] = &pb.SignResponse{State: pb.ResponseState_UNKNOWN} }",
  "Multisign: validateMultisignRequests(ctx, req, res)",
  "Multisign: validateMultisignRequests: for i, request := range req.GetRequests() { if request == nil { res.Responses[i].State = pb.ResponseState_FAILED; return }; if request.GetAccount() == \"\" && request.GetPublicKey() == nil { res.Responses[i].State = pb.ResponseState_DENIED; return }; if request.GetAccount() != \"\" && !strings.Contains(request.GetAccount(), \"/\") { res.Responses[i].State = pb.ResponseState_DENIED; return }; if request.GetData() == nil { res.Responses[i].State = pb.ResponseState_DENIED; return }; if request.GetDomain() == nil { res.Responses[i].State = pb.ResponseState_DENIED; return } }",
  "Multisign: for i := range req.GetRequests() { if res.Responses[i].State == pb.ResponseState_DENIED || res.Responses[i].State == pb.ResponseState_FAILED { return res, nil } }",
  "Multisign: accountNames := make([]string, len(req.GetRequests()))",
  "Multisign: pubKeys := make([][]byte, len(req.GetRequests()))",
  "Multisign: reqData := make([]*rules.SignData, len(req.GetRequests()))",
  "Multisign: for i, request := range req.GetRequests() { accountNames[i] = request.GetAccount(); pubKeys[i] = request.GetPublicKey(); reqData[i] = &rules.SignData{Domain: request.GetDomain(), Data: request.GetData()} }",
  "Multisign: results, signatures := h.signer.Multisign(ctx, handlers.GenerateCredentials(ctx), accountNames, pubKeys, reqData)",
  "Multisign: for i := range results { switch results[i] { case core.ResultSucceeded: res.Responses[i].State = pb.ResponseState_SUCCEEDED; res.Responses[i].Signature = signatures[i] case core.ResultDenied: res.Responses[i].State = pb.ResponseState_DENIED case core.ResultFailed: res.Responses[i].State = pb.ResponseState_FAILED case core.ResultUnknown: res.Responses[i].State = pb.ResponseState_UNKNOWN } }",
  "Multisign: return res, nil"
]

/-- `runRules` (services/ruler/golang/runner.go), the `switch action` of the per-entry path, one line per `case` IN SOURCE ORDER: the VALUE of the action constant compared with
    (services/ruler/service.go: declared with a string literal and assigned to nowhere in the repository's non-test files), the type `rulesData[i].Data` is
    asserted to have, as written, and the method of `s.rules` whose answer becomes `results[i]`.  Every arm makes at most one assertion (of
    `rulesData[i].Data`), calls at most one method, of `s.rules`, with `(ctx, metadata, <the asserted value>)`, and does not fall through;
    `s.rules` is mentioned nowhere else in the function; model counterpart: `which of Dirk.onSign / onPropose / onAttest the endpoints Dirk.signGeneric, multisign / signProp / signAtt consult; Dirk.verdictRes`. -/
def dispatchTableGen : List (String × String × String) := [
  ("Sign", "*rules.SignData", "OnSign"),
  ("Sign beacon proposal", "*rules.SignBeaconProposalData", "OnSignBeaconProposal"),
  ("Sign beacon attestation", "*rules.SignBeaconAttestationData", "OnSignBeaconAttestation"),
  ("Access account", "*rules.AccessAccountData", "OnListAccounts"),
  ("Lock wallet", "*rules.LockWalletData", "OnLockWallet"),
  ("Unlock wallet", "*rules.UnlockWalletData", "OnUnlockWallet"),
  ("Lock account", "*rules.LockAccountData", "OnLockAccount"),
  ("Unlock account", "*rules.UnlockAccountData", "OnUnlockAccount"),
  ("Create account", "*rules.CreateAccountData", "OnCreateAccount")]

/-- … the arms themselves: the value `results[i]` has when the arm is left, and whether it is left by `continue` (`true`: the statements after
    the switch are skipped).  `some k`: the k-th line of `dispatchTableGen`; anything else: the `default` arm.
    typeOk: the arm's type assertion holds; ruleVerdict: what the arm's rules method returns (`rulesResultValuesGen`) -/
def dispatchArmGen (actionIdx : Option Nat) (typeOk : Bool) (ruleVerdict : Nat) : Nat × Bool :=
  match actionIdx with
  | some 0 => if !typeOk then (3, true) else (ruleVerdict, false)
  | some 1 => if !typeOk then (3, true) else (ruleVerdict, false)
  | some 2 => if !typeOk then (3, true) else (ruleVerdict, false)
  | some 3 => if !typeOk then (3, true) else (ruleVerdict, false)
  | some 4 => if !typeOk then (3, true) else (ruleVerdict, false)
  | some 5 => if !typeOk then (3, true) else (ruleVerdict, false)
  | some 6 => if !typeOk then (3, true) else (ruleVerdict, false)
  | some 7 => if !typeOk then (3, true) else (ruleVerdict, false)
  | some 8 => if !typeOk then (3, true) else (ruleVerdict, false)
  | _ => (3, false)

/-- … the `rules.Result` value (`rulesResultValuesGen`) position i of the returned list holds, for ONE entry; the list is created with every
    position 0 and each position is visited once (`util.Scatter` over `len(rulesData)`, extents `for i := offset; i < offset+entries; i++`).
    entryNil: `rulesData[i] == nil`; metadataErr: `s.assembleMetadata(…)` returns an error; the conversion after the switch: `if results[i] == rules.UNKNOWN { results[i] = rules.FAILED }`.  Tests in source order -/
def dispatchEntryGen (entryNil metadataErr : Bool) (actionIdx : Option Nat) (typeOk : Bool) (ruleVerdict : Nat) : Nat :=
  if entryNil then 0
  else if metadataErr then 3
  else
    match dispatchArmGen actionIdx typeOk ruleVerdict with
    | (v, true) => v
    | (v, false) => if v = 0 then 3 else v

/-- the guards of `runRules`, as written in the source, in order -/
def dispatchEntryGuards : List String := [
  "if rulesData[i] == nil { continue }",
  "metadata, err := s.assembleMetadata(…); if err != nil { results[i] = rules.FAILED; continue }",
  "switch action",
  "case ruler.ActionSign: data, ok := rulesData[i].Data.(*rules.SignData); if !ok { results[i] = rules.FAILED; continue }; results[i] = s.rules.OnSign(ctx, metadata, data)",
  "case ruler.ActionSignBeaconProposal: data, ok := rulesData[i].Data.(*rules.SignBeaconProposalData); if !ok { results[i] = rules.FAILED; continue }; results[i] = s.rules.OnSignBeaconProposal(ctx, metadata, data)",
  "case ruler.ActionSignBeaconAttestation: data, ok := rulesData[i].Data.(*rules.SignBeaconAttestationData); if !ok { results[i] = rules.FAILED; continue }; results[i] = s.rules.OnSignBeaconAttestation(ctx, metadata, data)",
  "case ruler.ActionAccessAccount: data, ok := rulesData[i].Data.(*rules.AccessAccountData); if !ok { results[i] = rules.FAILED; continue }; results[i] = s.rules.OnListAccounts(ctx, metadata, data)",
  "case ruler.ActionLockWallet: data, ok := rulesData[i].Data.(*rules.LockWalletData); if !ok { results[i] = rules.FAILED; continue }; results[i] = s.rules.OnLockWallet(ctx, metadata, data)",
  "case ruler.ActionUnlockWallet: data, ok := rulesData[i].Data.(*rules.UnlockWalletData); if !ok { results[i] = rules.FAILED; continue }; results[i] = s.rules.OnUnlockWallet(ctx, metadata, data)",
  "case ruler.ActionLockAccount: data, ok := rulesData[i].Data.(*rules.LockAccountData); if !ok { results[i] = rules.FAILED; continue }; results[i] = s.rules.OnLockAccount(ctx, metadata, data)",
  "case ruler.ActionUnlockAccount: data, ok := rulesData[i].Data.(*rules.UnlockAccountData); if !ok { results[i] = rules.FAILED; continue }; results[i] = s.rules.OnUnlockAccount(ctx, metadata, data)",
  "case ruler.ActionCreateAccount: data, ok := rulesData[i].Data.(*rules.CreateAccountData); if !ok { results[i] = rules.FAILED; continue }; results[i] = s.rules.OnCreateAccount(ctx, metadata, data)",
  "default: results[i] = rules.FAILED",
  "if results[i] == rules.UNKNOWN { results[i] = rules.FAILED }"
]

/-- `runRulesForMultipleBeaconAttestations` (services/ruler/golang/runner.go), what the batch shortcut does, as canonical facts (locals printed as their roles): how the result list starts, what each refusal in the
    preparation loop writes and how it leaves, what is handed to which method of `s.rules` (the only mention of `s.rules`), and what is done with its answer; model counterpart: `Dirk.onAttestBatch as consulted by Dirk.rulesKeyed / Dirk.signAtts`. -/
def dispatchBatchGen : List String := [
  "results: created len(rulesData) long, every position rules.UNKNOWN",
  "missing account: if rulesData[i].AccountName == \"\" { results[i] = rules.FAILED; break }",
  "metadata error: metadatas[i], err = s.assembleMetadata(…); if err != nil { results[i] = rules.FAILED; break }",
  "type mismatch: data, ok := rulesData[i].Data.(*rules.SignBeaconAttestationData); if !ok { results[i] = rules.FAILED; break }",
  "data: reqData := make([]*rules.SignBeaconAttestationData, len(rulesData)); reqData[i] = data (the value asserted to be *rules.SignBeaconAttestationData)",
  "break: leaves the loop over the extent — the later entries of that extent are not examined and keep rules.UNKNOWN",
  "early return: for i := range results { if results[i] == rules.FAILED { return results } } (the rule is not called; the other positions are returned as they are)",
  "rule: return s.rules.OnSignBeaconAttestations(ctx, metadatas, reqData)",
  "unknown: the list the rule returns is returned as it is — rules.UNKNOWN in it is NOT converted"
]

/-- the guards of `runRulesForMultipleBeaconAttestations`, as written in the source, in order -/
def dispatchBatchGuards : List String := [
  "missing account: if rulesData[i].AccountName == \"\" { results[i] = rules.FAILED; break }",
  "metadata error: metadatas[i], err = s.assembleMetadata(…); if err != nil { results[i] = rules.FAILED; break }",
  "type mismatch: data, ok := rulesData[i].Data.(*rules.SignBeaconAttestationData); if !ok { results[i] = rules.FAILED; break }",
  "reqData[i] = data",
  "early return: for i := range results { if results[i] == rules.FAILED { return results } } (the rule is not called; the other positions are returned as they are)",
  "rule: return s.rules.OnSignBeaconAttestations(ctx, metadatas, reqData)"
]

end Dirk.Gen
