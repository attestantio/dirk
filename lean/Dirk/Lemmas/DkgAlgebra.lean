/-
  Dirk.Lemmas.DkgAlgebra — the algebra behind Feldman-VSS distributed key generation and threshold
  recovery, over an arbitrary field `F` (scalar field) and an arbitrary `F`-module `G` (the curve
  group written additively).
-/
import Mathlib.LinearAlgebra.Lagrange

namespace Dirk.Dkg

open Polynomial BigOperators

variable {F : Type*} [Field F] {G : Type*} [AddCommGroup G] [Module F G]

/-- the value a receiver computes from a commitment vector `c` (length `t`) at point `x` -/
def evalCommit (t : ℕ) (c : ℕ → G) (x : F) : G := ∑ k ∈ Finset.range t, x ^ k • c k

/-- a share `f(x)` verifies against the commitments `coeff k • g` of its polynomial -/
theorem verify_single (g : G) (f : F[X]) (t : ℕ) (hf : f.natDegree < t) (x : F) :
    evalCommit t (fun k => f.coeff k • g) x = f.eval x • g := by
  unfold evalCommit
  rw [eval_eq_sum_range' hf, Finset.sum_smul]
  refine Finset.sum_congr rfl fun k _ => ?_
  rw [smul_smul, mul_comm]

/- `Lagrange.basis` is defined through `Finset.erase`, hence needs decidable equality on the index
   type, here `F` itself (identifiers are field elements). Stated with an arbitrary instance. -/
variable [DecidableEq F]

/-- interpolation at `0` written as a weighted sum of the values -/
theorem eval_zero_interpolate (T : Finset F) (r : F → F) :
    (Lagrange.interpolate T id r).eval 0 = ∑ j ∈ T, (Lagrange.basis T id j).eval 0 * r j := by
  rw [Lagrange.interpolate_apply, eval_finsetSum]
  refine Finset.sum_congr rfl fun j _ => ?_
  rw [eval_mul, eval_C, mul_comm]

/-- the scalar version: the recovered secret itself -/
theorem recover_scalar (p : F[X]) (t : ℕ) (hp : p.natDegree < t) (T : Finset F) (hT : T.card = t) :
    ∑ j ∈ T, (Lagrange.basis T id j).eval 0 * p.eval j = p.eval 0 := by
  have hdeg : p.degree < T.card := by
    rw [hT]
    exact lt_of_le_of_lt degree_le_natDegree (by exact_mod_cast hp)
  have h := Lagrange.eq_interpolate (s := T) (v := id) Function.injective_id.injOn hdeg
  rw [← eval_zero_interpolate T (fun j => p.eval j)]
  exact congrArg (eval 0) h.symm

/-- non-vacuity: `p = 3 + 2X` shared to identifiers `1, 2` (threshold 2) recovers `3` -/
example :
    ∑ j ∈ ({1, 2} : Finset ℚ),
        (Lagrange.basis ({1, 2} : Finset ℚ) id j).eval 0 * (C 3 + C 2 * X : ℚ[X]).eval j = 3 := by
  rw [recover_scalar _ 2 (Nat.lt_succ_of_le (by rw [add_comm]; exact natDegree_linear_le)) _
    (Finset.card_pair (by norm_num))]
  rw [eval_add, eval_C, eval_mul, eval_X, mul_zero, add_zero]

/-- any `t` distinct identifiers recover the group secret applied to any point `h`
    (threshold signature recovery): Lagrange interpolation at 0 -/
theorem recover {ι : Type*} (P : Finset ι) (f : ι → F[X]) (t : ℕ)
    (hf : ∀ i ∈ P, (f i).natDegree < t) (T : Finset F) (hT : T.card = t) (h : G) :
    ∑ j ∈ T, (Lagrange.basis T id j).eval 0 • ((∑ i ∈ P, (f i).eval j) • h)
      = (∑ i ∈ P, (f i).eval 0) • h := by
  simp only [Finset.sum_smul, Finset.smul_sum, smul_smul]
  rw [Finset.sum_comm]
  refine Finset.sum_congr rfl fun i hi => ?_
  rw [← Finset.sum_smul, recover_scalar (f i) t (hf i hi) T hT]

/-- fewer than threshold do not recover: a polynomial of degree exactly `|T|` differs from its interpolant through
    `T` at every point outside `T`.  If they agreed there too they would agree at `|T| + 1` points and be equal, but
    the interpolant has degree `< |T|`. -/
theorem eval_interpolate_ne (p : F[X]) (T : Finset F) (hdeg : p.natDegree = T.card) (hp : p ≠ 0) {a : F}
    (ha : a ∉ T) : (Lagrange.interpolate T id fun j => p.eval j).eval a ≠ p.eval a := by
  intro h
  have hinj : Set.InjOn (id : F → F) (T : Set F) := Function.injective_id.injOn
  have hq := Lagrange.degree_interpolate_lt (fun j => p.eval j) hinj
  have hpd : p.degree = T.card := by rw [degree_eq_natDegree hp, hdeg]
  have hc : ((T.card : ℕ) : WithBot ℕ) < (insert a T).card := by
    rw [Finset.card_insert_of_notMem ha]; exact_mod_cast Nat.lt_succ_self _
  have he := eq_of_degrees_lt_of_eval_finset_eq (insert a T) (hq.trans hc) (hpd ▸ hc) fun x hx => by
    rcases Finset.mem_insert.mp hx with rfl | hx
    · exact h
    · exact Lagrange.eval_interpolate_at_node _ hinj hx
  rw [he, hpd] at hq
  exact lt_irrefl _ hq

/-- two quorums of size ≥ t among n participants intersect when 2t > n -/
theorem quorum_intersect {α : Type*} [DecidableEq α] (U S₁ S₂ : Finset α) (h₁ : S₁ ⊆ U)
    (h₂ : S₂ ⊆ U) (t : ℕ) (ht : U.card < 2 * t) (c₁ : t ≤ S₁.card) (c₂ : t ≤ S₂.card) :
    (S₁ ∩ S₂).Nonempty :=
  Finset.inter_nonempty_of_card_lt_card_add_card h₁ h₂ (by omega)

end Dirk.Dkg
