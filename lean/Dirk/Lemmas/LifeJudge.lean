/-
  Dirk.Lemmas.LifeJudge — the lifecycle judge (Dirk.Spec.Lifecycle) never fires on the message-level
  model (Dirk.Model.Dkg): run any list of events on a cluster that starts without generations, feed
  the model's own replies to the judge, and every verdict is "ok".  Core Lean only.

  Invariant: for every instance id `i` and name `a`, the start time of the generation the model
  considers active for `a` at `i` (`mstart`) equals the start time the judge holds for `(i, a)`
  provided it has not expired (`jstart`).  Expired entries may stay behind on either side; they
  never revive because the clock only moves forward (`live_live`, `Dkg.sessionOf_tick`).

  What each handler does to the start times is read off its description in Dirk.Lemmas.DkgLife
  (`Writes.upd`, `Quiet.same`); what the judge expects of a reply is said once, in `Inv.judge`.
-/
import Dirk.Spec.Lifecycle
import Dirk.Lemmas.DkgLife

namespace Dirk.LifeJudge

open Dirk.Dkg Dirk.Spec.Life

def live (now timeout : Nat) : Option Nat → Option Nat
  | some s => if now - s ≤ timeout then some s else none
  | none => none

/-- expired stays expired: filtering at an earlier time first changes nothing -/
theorem live_live (n d t : Nat) (o : Option Nat) : live (n + d) t (live n t o) = live (n + d) t o := by
  fun_cases live n t o with
  | case1 s h => rfl
  | case2 s h =>
    have h' : ¬ (n + d - s ≤ t) := fun h' => h (Nat.le_trans (Nat.sub_le_sub_right (Nat.le_add_right n d) s) h')
    simp only [live, h', if_false]
  | case3 => rfl

def mstart (c : Cluster) (i : Nat) (a : String) : Option Nat := (sessionOf c i a).map (·.started)

theorem mstart_tick (c : Cluster) (d i : Nat) (a : String) :
    mstart (tick c d) i a = live (c.now + d) c.timeout (mstart c i a) := by
  unfold mstart
  rw [sessionOf_tick]
  cases sessionOf c i a with
  | none => rfl
  | some s =>
    by_cases h : c.now + d - s.started > c.timeout
    · simp only [h, if_true, Option.map, live, Nat.not_le.mpr h, if_false]
    · simp only [h, if_false, Option.map, live, Nat.not_lt.mp h, if_true]

/-- the two clusters have the same clock and read the same start time everywhere (of `Dkg.SameEnv` only clock and
    timeout: the peer table and the accounts are no concern of the judge) -/
structure Same (c c' : Cluster) : Prop where
  now : c'.now = c.now
  timeout : c'.timeout = c.timeout
  start : ∀ k nm, mstart c' k nm = mstart c k nm

/-- … the same start time everywhere except at `(i, acct)`, where `c'` reads `v` -/
structure Upd (c c' : Cluster) (i : Nat) (acct : String) (v : Option Nat) : Prop where
  now : c'.now = c.now
  timeout : c'.timeout = c.timeout
  start : ∀ k nm, mstart c' k nm = if k = i ∧ nm = acct then v else mstart c k nm

theorem Upd.same {c c' : Cluster} {i : Nat} {acct : String} (h : Upd c c' i acct (mstart c i acct)) : Same c c' :=
  ⟨h.now, h.timeout, fun k nm => (h.start k nm).trans (ite_entry_same (mstart c) i acct k nm)⟩

theorem Same.upd {c c' : Cluster} (h : Same c c') (i : Nat) (acct : String) : Upd c c' i acct (mstart c i acct) :=
  ⟨h.now, h.timeout, fun k nm => (h.start k nm).trans (ite_entry_same (mstart c) i acct k nm).symm⟩

theorem _root_.Dirk.Dkg.Writes.upd {c c' : Cluster} {i : Nat} {acct : String} {v : Option Session} {held : Bool}
    (h : Writes c c' i acct v held) : Upd c c' i acct (v.map (·.started)) := by
  refine ⟨h.now, h.timeout, fun k nm => ?_⟩
  unfold mstart
  rw [h.session]
  split <;> rfl

theorem _root_.Dirk.Dkg.Quiet.same {c c' : Cluster} {acct : String} (h : Quiet acct c c') : Same c c' := by
  refine ⟨h.now, h.timeout, fun k nm => ?_⟩
  unfold mstart
  by_cases hn : nm = acct
  · rw [hn, h.started]
  · rw [h.other k nm hn]

def jstart (j : JState) (k : Nat × String) : Option Nat := live j.now j.timeout (j.started.lookup k)

theorem isActive_eq (j : JState) (k : Nat × String) : isActive j k = (jstart j k).isSome := by
  unfold isActive jstart
  fun_cases live j.now j.timeout (j.started.lookup k) <;> simp [*]

theorem jstart_clear (j : JState) (k k' : Nat × String) :
    jstart (clear j k) k' = if k' = k then none else jstart j k' := by
  unfold jstart clear
  rw [lookup_filter_ne]
  split <;> rfl

theorem jstart_start (j : JState) (k k' : Nat × String) :
    jstart (start j k) k' = if k' = k then some j.now else jstart j k' := by
  unfold jstart start clear
  rw [lookup_cons_ite, lookup_filter_ne]
  by_cases h : k' = k
  · simp [h, live]
  · simp only [h, if_false]

theorem jstart_advance (j : JState) (d : Nat) (k : Nat × String) :
    jstart (advance j d) k = live (j.now + d) j.timeout (jstart j k) := by
  unfold jstart advance
  simp only [live_live]

structure Inv (c : Cluster) (j : JState) : Prop where
  now : j.now = c.now
  timeout : j.timeout = c.timeout
  agree : ∀ i a, jstart j (i, a) = mstart c i a

theorem Inv.same {c c' : Cluster} {j : JState} (h : Inv c j) (hs : Same c c') : Inv c' j :=
  ⟨h.now.trans hs.now.symm, h.timeout.trans hs.timeout.symm, fun i a => (h.agree i a).trans (hs.start i a).symm⟩

theorem Inv.isActive {c : Cluster} {j : JState} (h : Inv c j) (i : Nat) (a : String) :
    isActive j (i, a) = (mstart c i a).isSome := by
  rw [isActive_eq, h.agree]

theorem Inv.started {c c' : Cluster} {j : JState} {i : Nat} {a : String} (h : Inv c j)
    (hu : Upd c c' i a (some c.now)) : Inv c' (start j (i, a)) := by
  refine ⟨h.now.trans hu.now.symm, h.timeout.trans hu.timeout.symm, fun i' a' => ?_⟩
  rw [jstart_start, hu.start, h.agree, h.now]
  simp only [Prod.mk.injEq]

theorem Inv.cleared {c c' : Cluster} {j : JState} {i : Nat} {a : String} (h : Inv c j)
    (hu : Upd c c' i a none) : Inv c' (clear j (i, a)) := by
  refine ⟨h.now.trans hu.now.symm, h.timeout.trans hu.timeout.symm, fun i' a' => ?_⟩
  rw [jstart_clear, hu.start, h.agree]
  simp only [Prod.mk.injEq]

theorem Inv.tick {c : Cluster} {j : JState} (h : Inv c j) (d : Nat) : Inv (tick c d) (advance j d) := by
  refine ⟨congrArg (· + d) h.now, h.timeout, fun i a => ?_⟩
  rw [jstart_advance, mstart_tick, h.agree, h.now, h.timeout]

inductive Ev where
  | prepare (i caller : Nat) (acct : String) (t : Nat) (parts : List Nat)
  | execute (i caller : Nat) (acct : String)
  | contribute (i caller : Nat) (acct : String) (valid : Bool) (vlen : Nat)
  | commit (i caller : Nat) (acct : String)
  | abort (i caller : Nat) (acct : String)
  | tick (d : Nat)
  deriving Repr, Inhabited

/-- what the harness tells the judge: was the reply `ok`? -/
def accepted (r : Reply) : Bool := r == .ok

/-- one step of model + judge: the model handles the event, the judge reads the model's reply;
    returns the new cluster, the new judge state and the verdict -/
def stepBoth (c : Cluster) (j : JState) : Ev → Cluster × JState × String
  | .prepare i caller acct t parts =>
    ((onPrepare c i caller acct t parts).1,
      judge j .prepare i acct (accepted (onPrepare c i caller acct t parts).2))
  | .execute i caller acct =>
    ((onExecute c i caller acct).1, judge j .execute i acct (accepted (onExecute c i caller acct).2))
  | .contribute i caller acct valid vlen =>
    ((onContribute c i caller acct valid vlen).1,
      judge j .contribute i acct (accepted (onContribute c i caller acct valid vlen).2))
  | .commit i caller acct =>
    ((onCommit c i caller acct).1, judge j .commit i acct (accepted (onCommit c i caller acct).2))
  | .abort i caller acct =>
    ((onAbort c i caller acct).1, judge j .abort i acct (accepted (onAbort c i caller acct).2))
  | .tick d => (tick c d, advance j d, "ok")

def runBoth : Cluster → JState → List Ev → List String
  | _, _, [] => []
  | c, j, e :: es => (stepBoth c j e).2.2 :: runBoth (stepBoth c j e).1 (stepBoth c j e).2.1 es

theorem accepted_of_ok {r : Reply} (h : r = .ok) : accepted r = true := by
  subst h; rfl

theorem accepted_of_not_ok {r : Reply} (h : r ≠ .ok) : accepted r = false := by
  cases r <;> first | rfl | exact absurd rfl h

/-- `accepted` is what the driver feeds the judge (`acc == "ok"` on the reply string) -/
theorem accepted_eq_toStr (r : Reply) : accepted r = (r.toStr == "ok") := by
  cases r <;> simp [accepted, Reply.toStr]

/-- The lifecycle contract, read off the judge: the model wrote start time `v` for `(i, a)` and answered `r` to a
    message `m`.  If a refusal left the start time alone, and an acceptance found a generation active exactly when `m`
    is not a prepare and left the start time `judge` expects (now / unchanged / none), then the verdict is "ok" and
    judge and model still agree. -/
theorem Inv.judge {c c' : Cluster} {j : JState} (h : Inv c j) (m : Msg) {i : Nat} {a : String} {r : Reply}
    {v : Option Nat} (hu : Upd c c' i a v) (hno : r ≠ .ok → v = mstart c i a)
    (hok : r = .ok → match m with
      | .prepare => mstart c i a = none ∧ v = some c.now
      | .execute | .contribute => (mstart c i a).isSome ∧ v = mstart c i a
      | .commit | .abort => (mstart c i a).isSome ∧ v = none) :
    Inv c' (judge j m i a (accepted r)).1 ∧ (judge j m i a (accepted r)).2 = "ok" := by
  by_cases hr : r = .ok
  · have hm := hok hr
    cases m <;> obtain ⟨ha, rfl⟩ := hm <;> simp only [Spec.Life.judge, accepted_of_ok hr, h.isActive, ha]
    · exact ⟨h.started hu, rfl⟩
    · exact ⟨h.same hu.same, rfl⟩
    · exact ⟨h.same hu.same, rfl⟩
    · exact ⟨h.cleared hu, rfl⟩
    · exact ⟨h.cleared hu, rfl⟩
  · obtain rfl := hno hr
    simp only [Spec.Life.judge, accepted_of_not_ok hr]
    exact ⟨h.same hu.same, rfl⟩

/-- one step keeps the invariant and the verdict is "ok": every handler meets the contract -/
theorem step_sound {c : Cluster} {j : JState} (h : Inv c j) (e : Ev) :
    Inv (stepBoth c j e).1 (stepBoth c j e).2.1 ∧ (stepBoth c j e).2.2 = "ok" := by
  cases e with
  | prepare i caller acct t parts =>
    obtain ⟨hr, hw⟩ := onPrepare_spec c i caller acct t parts
    refine h.judge .prepare hw.upd (fun hn => by rw [if_neg hn]; rfl) (fun hk => ⟨?_, by rw [if_pos hk]; rfl⟩)
    -- the reply is `ok`, so neither test of the reply equation `hr` fired: no generation was active
    rw [hr] at hk
    split at hk
    · cases hk
    split at hk
    · cases hk
    · rename_i hns
      simp at hns
      simp [mstart, hns.2]
  | execute i caller acct =>
    obtain ⟨hr, hq⟩ := onExecute_spec c i caller acct
    exact h.judge .execute (hq.same.upd i acct) (fun _ => rfl) (fun hk => ⟨by simpa [mstart] using hr hk, rfl⟩)
  | contribute i caller acct valid vlen =>
    refine h.judge .contribute ((onContribute_quiet c i caller acct valid vlen).same.upd i acct) (fun _ => rfl)
      (fun hk => ⟨?_, rfl⟩)
    obtain ⟨_, s, hs, _⟩ := (onContribute_spec c i caller acct valid vlen).1.mp hk
    simp [mstart, hs]
  | commit i caller acct =>
    obtain ⟨hr, hw⟩ := onCommit_spec c i caller acct
    refine h.judge .commit hw.upd (fun hn => by rw [if_neg hn]; rfl) (fun hk => ⟨?_, by rw [if_pos hk]; rfl⟩)
    obtain ⟨_, s, hs, _⟩ := hr.mp hk
    simp [mstart, hs]
  | abort i caller acct =>
    obtain ⟨hr, hw⟩ := onAbort_spec c i caller acct
    refine h.judge .abort hw.upd (fun hn => by rw [if_neg hn]; rfl) (fun hk => ⟨by simpa [mstart] using (hr.mp hk).2, by rw [if_pos hk]; rfl⟩)
  | tick d => exact ⟨h.tick d, rfl⟩

theorem run_sound (evs : List Ev) : ∀ (c : Cluster) (j : JState), Inv c j → ∀ v ∈ runBoth c j evs, v = "ok" := by
  induction evs with
  | nil => intro c j _ v hv; simp [runBoth] at hv
  | cons e es ih =>
    intro c j h v hv
    obtain ⟨hi, hok⟩ := step_sound h e
    simp only [runBoth, List.mem_cons] at hv
    rcases hv with hv | hv
    · rw [hv, hok]
    · exact ih _ _ hi v hv

theorem inv_init (c0 : Cluster) (hfresh : ∀ x ∈ c0.insts, x.sessions = []) :
    Inv c0 { timeout := c0.timeout, now := c0.now } := by
  refine ⟨rfl, rfl, fun i a => ?_⟩
  unfold mstart sessionOf
  cases hg : getInst c0 i with
  | none => rfl
  | some x =>
    have hx : x ∈ c0.insts := List.mem_of_find?_eq_some hg
    simp only [active, hfresh x hx]
    rfl

/-- the judge is sound with respect to the model: whatever events are run on a cluster that starts
    without generations, every verdict on the model's own replies is "ok".  (Distinct instance ids
    are not needed: `getInst` / `setInst` act on the first instance with a given id in either case.) -/
theorem judge_sound' (c0 : Cluster) (evs : List Ev) (hfresh : ∀ x ∈ c0.insts, x.sessions = []) :
    ∀ v ∈ runBoth c0 { timeout := c0.timeout, now := c0.now } evs, v = "ok" :=
  run_sound evs c0 _ (inv_init c0 hfresh)

/-- `judge_sound'` under the additional hypothesis that instance ids are distinct; `_hnodup` is not used -/
theorem judge_sound (c0 : Cluster) (evs : List Ev)
    (hfresh : ∀ x ∈ c0.insts, x.sessions = []) (_hnodup : (c0.insts.map (·.id)).Nodup) :
    ∀ v ∈ runBoth c0 { timeout := c0.timeout, now := c0.now } evs, v = "ok" :=
  judge_sound' c0 evs hfresh

/-- the clusters the driver builds (`insts := ids.map (fun i => {id := i})`) start without generations -/
theorem driver_init_fresh (ids peers : List Nat) (timeout : Nat) :
    ∀ x ∈ ({ insts := ids.map (fun i => ({ id := i } : DInst)), peers := peers, timeout := timeout } : Cluster).insts,
      x.sessions = [] := by
  intro x hx
  simp only [List.mem_map] at hx
  obtain ⟨i, _, rfl⟩ := hx
  rfl

theorem driver_init_nodup (ids peers : List Nat) (timeout : Nat) (h : ids.Nodup) :
    (({ insts := ids.map (fun i => ({ id := i } : DInst)), peers := peers, timeout := timeout } : Cluster).insts.map
      (·.id)).Nodup := by
  simp only [List.map_map]
  have : ((fun x : DInst => x.id) ∘ fun i => ({ id := i } : DInst)) = id := rfl
  rw [this, List.map_id]
  exact h

/-- the hypotheses hold on a concrete cluster (the one of the C17 check) … -/
example :
    let c0 : Cluster := { insts := [{ id := 1 }, { id := 2 }, { id := 3 }, { id := 5 }], peers := [1, 2, 3, 5], timeout := 1000 }
    (∀ x ∈ c0.insts, x.sessions = []) ∧ (c0.insts.map (·.id)).Nodup := by
  refine ⟨driver_init_fresh [1, 2, 3, 5] [1, 2, 3, 5] 1000, ?_⟩
  decide

/-- … and the statement is not vacuous there: the model does accept messages, so the judge's
    `accepted` branches are exercised (replies are `Reply` values, no string comparison involved) -/
example :
    let c0 : Cluster := { insts := [{ id := 1 }, { id := 2 }], peers := [1, 2], timeout := 10 }
    accepted (onPrepare c0 1 2 "DW/a" 2 [1, 2]).2 = true ∧
      accepted (onAbort (onPrepare c0 1 2 "DW/a" 2 [1, 2]).1 1 2 "DW/a").2 = true ∧
      accepted (onAbort c0 1 2 "DW/a").2 = false := by
  decide

end Dirk.LifeJudge
