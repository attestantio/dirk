/-
  Dirk.Lemmas.ImportProofs — the command-level slashing-protection import (`importFile`).

  The merge (`mergeEntries`) only ever raises a field, and only to a non-negative int64 value (`Raised`), so a
  field it leaves at −1 was −1 in the store.  `importKey` skips exactly the −1 fields, hence after a successful
  import the store exports, for every key of the file, exactly the merged record, and no other record is
  touched (`importFile_exact`).  Never lowering, covering the file and the refusals are read off that.
  Core Lean only.
-/
import Dirk.Model.Import
import Dirk.Lemmas.Store
import Dirk.Lemmas.Range
namespace Dirk

def ProtGe (a b : Protection) : Prop := a.slot ≥ b.slot ∧ a.src ≥ b.src ∧ a.tgt ≥ b.tgt

/-- holds of every store (`rangeOK_any`); it is here because statements of Props/C10 carry it as a hypothesis -/
def RangeOK (db : Db) : Prop :=
  ∀ k p, exportKey db k = some p → InI64 p.slot ∧ InI64 p.src ∧ InI64 p.tgt

theorem ProtGe.refl (a : Protection) : ProtGe a a := by unfold ProtGe; omega
theorem ProtGe.trans {a b c : Protection} (h1 : ProtGe a b) (h2 : ProtGe b c) : ProtGe a c := by
  unfold ProtGe at *; omega

def PInI64 (p : Protection) : Prop := InI64 p.slot ∧ InI64 p.src ∧ InI64 p.tgt

theorem exportKey_some {db : Db} {k : Bytes} {q : Protection} (h : exportKey db k = some q) :
    fetchAtt db k false = some ⟨q.src, q.tgt⟩ ∧ fetchProp db k false = some q.slot := by
  unfold exportKey at h
  split at h
  · rename_i a p ha hp
    injection h with h; subst h
    exact ⟨ha, hp⟩
  · cases h

theorem exportKey_congr {db db' : Db} {k : Bytes} (ha : fetchAtt db' k false = fetchAtt db k false)
    (hp : fetchProp db' k false = fetchProp db k false) : exportKey db' k = exportKey db k := by
  unfold exportKey; rw [ha, hp]

theorem rangeOK_any (db : Db) : RangeOK db := by
  intro k p h
  obtain ⟨ha, hp⟩ := exportKey_some h
  exact ⟨fetchProp_inI64 hp, fetchAtt_inI64 ha⟩

/-- what folding numbers of the file into `p` can make of it: fields are raised, to int64 values, and a field that
    is −1 ("nothing recorded"; source and target go together) in `p'` was −1 in `p` -/
def Raised (p p' : Protection) : Prop :=
  ProtGe p' p ∧ (p'.slot = -1 → p.slot = -1) ∧ (p'.src = -1 → p.src = -1 ∧ p.tgt = p'.tgt) ∧
  (PInI64 p → PInI64 p')

theorem Raised.refl (p : Protection) : Raised p p := ⟨ProtGe.refl p, id, fun h => ⟨h, rfl⟩, id⟩

theorem Raised.trans {a b c : Protection} (h1 : Raised a b) (h2 : Raised b c) : Raised a c := by
  obtain ⟨g1, s1, a1, r1⟩ := h1
  obtain ⟨g2, s2, a2, r2⟩ := h2
  exact ⟨g2.trans g1, fun h => s1 (s2 h), fun h => by have := a2 h; have := a1 this.1; omega, fun h => r2 (r1 h)⟩

def CoversBlocks (p : Protection) (bl : List String) : Prop :=
  ∀ s ∈ bl, ∃ v, parseInt64 s = some v ∧ 0 ≤ v ∧ v ≤ p.slot

def CoversAtts (p : Protection) (atts : List (String × String)) : Prop :=
  ∀ a ∈ atts, ∃ vs vt, parseInt64 a.1 = some vs ∧ parseInt64 a.2 = some vt ∧
    0 ≤ vs ∧ 0 ≤ vt ∧ vs ≤ p.src ∧ vt ≤ p.tgt

theorem CoversBlocks.mono {p p' : Protection} {bl : List String} (h : CoversBlocks p bl) (hge : ProtGe p' p) :
    CoversBlocks p' bl := fun s hs =>
  let ⟨v, hv, h0, hle⟩ := h s hs
  ⟨v, hv, h0, Int.le_trans hle hge.1⟩

theorem CoversAtts.mono {p p' : Protection} {atts : List (String × String)} (h : CoversAtts p atts)
    (hge : ProtGe p' p) : CoversAtts p' atts := fun a ha =>
  let ⟨vs, vt, hvs, hvt, h0s, h0t, hs, ht⟩ := h a ha
  ⟨vs, vt, hvs, hvt, h0s, h0t, Int.le_trans hs hge.2.1, Int.le_trans ht hge.2.2⟩

theorem parseInt64_range {s : String} {v : Int} : parseInt64 s = some v → InI64 v := by
  fun_cases parseInt64 s <;> intro h <;> cases h
  all_goals unfold InI64 two63 at *; omega

/-- one step of a fold (`omega` reads the `if`s as the maxima they are) -/
theorem raised_att (p : Protection) {sv tv : Int} (h0 : 0 ≤ sv) (hs : InI64 sv) (ht : InI64 tv) :
    Raised p { p with src := if sv > p.src then sv else p.src, tgt := if tv > p.tgt then tv else p.tgt } ∧
      sv ≤ (if sv > p.src then sv else p.src) ∧ tv ≤ (if tv > p.tgt then tv else p.tgt) := by
  unfold Raised ProtGe PInI64 InI64 at *
  dsimp only
  omega

theorem raised_slot (p : Protection) {v : Int} (h0 : 0 ≤ v) (hv : InI64 v) :
    Raised p { p with slot := if v > p.slot then v else p.slot } ∧ v ≤ (if v > p.slot then v else p.slot) := by
  unfold Raised ProtGe PInI64 InI64 at *
  dsimp only
  omega

theorem foldAtts_spec (atts : List (String × String)) (p p' : Protection) (h : foldAtts p atts = some p') :
    Raised p p' ∧ CoversAtts p' atts := by
  fun_induction foldAtts p atts with
  | case1 p => cases h; exact ⟨Raised.refl _, fun a ha => nomatch ha⟩
  | case2 | case3 | case4 | case5 => cases h
  | case6 p s t rest sv hsv h0s tv htv h0t ih =>
    obtain ⟨hr, hc⟩ := ih h
    obtain ⟨step, hs, ht⟩ := raised_att p (by omega) (parseInt64_range hsv) (parseInt64_range htv)
    exact ⟨step.trans hr, List.forall_mem_cons.mpr ⟨⟨sv, tv, hsv, htv, by omega, by omega,
      Int.le_trans hs hr.1.2.1, Int.le_trans ht hr.1.2.2⟩, hc⟩⟩

theorem foldBlocks_spec (bl : List String) (p p' : Protection) (h : foldBlocks p bl = some p') :
    Raised p p' ∧ CoversBlocks p' bl := by
  fun_induction foldBlocks p bl with
  | case1 p => cases h; exact ⟨Raised.refl _, fun a ha => nomatch ha⟩
  | case2 | case3 => cases h
  | case4 p s rest v hv h0 ih =>
    obtain ⟨hr, hc⟩ := ih h
    obtain ⟨step, hs⟩ := raised_slot p (by omega) (parseInt64_range hv)
    exact ⟨step.trans hr, List.forall_mem_cons.mpr ⟨⟨v, hv, by omega, Int.le_trans hs hr.1.1⟩, hc⟩⟩

theorem pget_set_same (m : PMap) (k : Bytes) (p : Protection) : (m.set k p).get k = some p := by
  simp [PMap.set, PMap.get]

theorem pget_set_other {m : PMap} {k k' : Bytes} {p : Protection} (h : k' ≠ k) :
    (m.set k p).get k' = m.get k' := by
  have : (k' == k) = false := by simpa using h
  simp [PMap.set, PMap.get, List.lookup, this]

theorem mem_final {m : PMap} {kp : Bytes × Protection} : kp ∈ m.final ↔ m.get kp.1 = some kp.2 := by
  obtain ⟨k, p⟩ := kp
  simp only [PMap.final, List.mem_filterMap, List.mem_eraseDups, List.mem_map, Option.map_eq_some_iff, Prod.mk.injEq]
  constructor
  · rintro ⟨_, _, _, h, rfl, rfl⟩; exact h
  · intro h
    obtain ⟨l₁, l₂, hl, _⟩ := List.lookup_eq_some_iff.mp h
    exact ⟨k, ⟨(k, p), by simp [hl], rfl⟩, p, h, rfl, rfl⟩

/-- For use on string literals (`(hexDecode0x_ofList _).trans rfl`: the unifier reads a literal as `String.ofList _`).
    A `String` is a UTF-8 byte array; evaluating `String.toList` on a literal decodes it again, at a cost that grows
    with the square of the length and is paid by the elaborator and by the kernel (millions of heartbeats for a
    98-character key).  Here `String.toList_ofList` hands the characters over and what is left runs on `List Char`.
    (`simp` does not see `String.ofList` inside a literal, so the lemma is applied by hand.) -/
theorem hexDecode0x_ofList (l : List Char) :
    hexDecode0x (String.ofList l) = hexDecodeL (match l with | '0' :: 'x' :: r => r | r => r) := by
  rw [hexDecode0x, String.toList_ofList]; rfl

theorem fit48_length (b : Bytes) : (fit48 b).length = 48 := by
  simp [fit48]

/-- Stated for an arbitrary map to start from, as the induction needs.  The length of a newly bound key is what
    `exportKey_start` asks for. -/
theorem mergeEntries_spec (db : Db) (es : List FileEntry) (m m' : PMap) (h : mergeEntries db m es = some m') :
    (∀ k, (∀ p, m.get k = some p → ∃ p', m'.get k = some p' ∧ Raised p p') ∧
      (∀ p', m'.get k = some p' → m.get k = none → Raised ((existingOf db k).getD {}) p' ∧ k.length = 48)) ∧
    (∀ e ∈ es, ∃ kb p', hexDecode0x e.pubkey = some kb ∧ m'.get (fit48 kb) = some p' ∧
      CoversBlocks p' e.blocks ∧ CoversAtts p' e.atts) := by
  fun_induction mergeEntries db m es with
  | case1 m =>
    cases h
    exact ⟨fun k => ⟨fun p hp => ⟨p, hp, Raised.refl p⟩, fun p' hp' hn => by rw [hn] at hp'; cases hp'⟩,
      fun e he => nomatch he⟩
  | case2 | case3 | case4 => cases h
  | case5 m e rest kb hkb k start p1 hp1 p2 hp2 ih =>
    obtain ⟨ih, icov⟩ := ih h
    obtain ⟨r1, c1⟩ := foldAtts_spec _ _ _ hp1
    obtain ⟨r2, c2⟩ := foldBlocks_spec _ _ _ hp2
    obtain ⟨pf, hpf, hge⟩ := (ih _).1 p2 (pget_set_same _ _ _)
    have hr := (r1.trans r2).trans hge
    refine ⟨fun k' => ?_, fun e' he' => ?_⟩
    · by_cases hk : k' = k
      · subst hk
        refine ⟨fun p hp => ⟨pf, hpf, ?_⟩, fun p' hp' hn => ⟨?_, fit48_length kb⟩⟩
        · simp only [start, hp] at hr; exact hr
        · rw [hpf] at hp'; cases hp'
          simp only [start, hn] at hr
          cases hx : existingOf db k <;> rw [hx] at hr <;> exact hr
      · have := ih k'
        rw [pget_set_other hk] at this
        exact this
    · rcases List.mem_cons.mp he' with rfl | he'
      · exact ⟨kb, pf, hkb, hpf, c2.mono hge.1, (c1.mono r2.1).mono hge.1⟩
      · exact icov e' he'

/-- `Db.pubKeys` cuts the store's keys at 48 bytes, so only of a key of that length does absence from `pubKeys` say that
    it has no record -/
theorem exportKey_not_pubKey (db : Db) (k : Bytes) (hk : k.length = 48) (hn : k ∉ db.pubKeys) :
    exportKey db k = some {} := by
  have h (x : UInt8) : db.get (k ++ [x]) = none :=
    List.lookup_eq_none_iff.mpr fun e he => bne_iff_ne.mpr fun heq => hn <|
      List.mem_eraseDups.mpr <| List.mem_map.mpr ⟨e, he, by rw [← heq]; exact List.take_left' hk⟩
  simp [exportKey, fetchAtt, fetchProp, attKey, propKey, h]

theorem exportKey_start (db : Db) (hex : exportable db = true) (k : Bytes) (hk : k.length = 48) :
    exportKey db k = some ((existingOf db k).getD {}) := by
  unfold existingOf
  by_cases hc : k ∈ db.pubKeys
  · obtain ⟨q, hq⟩ := Option.isSome_iff_exists.mp (List.all_eq_true.mp hex k hc)
    rw [if_pos (List.contains_iff_mem.mpr hc), hq]; rfl
  · rw [if_neg (mt List.contains_iff_mem.mp hc)]
    exact exportKey_not_pubKey db k hk hc

/-- `importKey` writes a field group (source and target; slot) when its first field is not −1 -/
theorem fetchAtt_importKey_written {db : Db} {k : Bytes} {p : Protection} (h : p.src ≠ -1)
    (hs : InI64 p.src) (ht : InI64 p.tgt) : fetchAtt (importKey db k p) k false = some ⟨p.src, p.tgt⟩ := by
  rw [importKey, if_pos h]
  exact fetchAtt_put_att_same _ _ ⟨p.src, p.tgt⟩ hs ht

theorem fetchAtt_importKey_skipped {db : Db} {k k' : Bytes} {p : Protection} (h : k' ≠ k ∨ p.src = -1) :
    fetchAtt (importKey db k p) k' false = fetchAtt db k' false := by
  unfold importKey
  by_cases h2 : p.src = -1
  · by_cases h1 : p.slot = -1 <;> simp [h1, h2, fetchAtt_put_prop]
  · by_cases h1 : p.slot = -1 <;> simp [h1, h2, fetchAtt_put_att_other (h.resolve_right h2), fetchAtt_put_prop]

theorem fetchProp_importKey_written {db : Db} {k : Bytes} {p : Protection} (h : p.slot ≠ -1)
    (hs : InI64 p.slot) : fetchProp (importKey db k p) k false = some p.slot := by
  unfold importKey
  by_cases h2 : p.src = -1 <;> simp [h, h2, fetchProp_put_prop_same _ _ _ hs, fetchProp_put_att]

theorem fetchProp_importKey_skipped {db : Db} {k k' : Bytes} {p : Protection} (h : k' ≠ k ∨ p.slot = -1) :
    fetchProp (importKey db k p) k' false = fetchProp db k' false := by
  unfold importKey
  by_cases h1 : p.slot = -1
  · by_cases h2 : p.src = -1 <;> simp [h1, h2, fetchProp_put_att]
  · by_cases h2 : p.src = -1 <;> simp [h1, h2, fetchProp_put_prop_other (h.resolve_right h1), fetchProp_put_att]

/-- writing back a record `Raised` from what the store holds leaves exactly that record: a group that is skipped
    held in the store what the record says -/
theorem exportKey_importKey_raised (db : Db) (k : Bytes) (p q : Protection)
    (hq : exportKey db k = some q) (hr : Raised q p) : exportKey (importKey db k p) k = some p := by
  obtain ⟨ea, ep⟩ := exportKey_some hq
  obtain ⟨_, hs, ha, hi⟩ := hr
  obtain ⟨is, ia, it⟩ := hi (rangeOK_any db k q hq)
  have ea' : fetchAtt (importKey db k p) k false = some ⟨p.src, p.tgt⟩ := by
    by_cases h : p.src = -1
    · rw [fetchAtt_importKey_skipped (.inr h), ea, (ha h).1, (ha h).2, h]
    · exact fetchAtt_importKey_written h ia it
  have ep' : fetchProp (importKey db k p) k false = some p.slot := by
    by_cases h : p.slot = -1
    · rw [fetchProp_importKey_skipped (.inr h), ep, hs h, h]
    · exact fetchProp_importKey_written h is
  unfold exportKey
  rw [ea', ep']

/-- The list is only asked to consist of bindings of one function `g` (for `m.final`, of `m.get`): a key listed twice
    is then written twice with the same record, and that the keys of `m.final` are distinct need not be proved. -/
theorem importAll_exact (g : Bytes → Option Protection) : ∀ (L : List (Bytes × Protection)) (db : Db),
    (∀ kp ∈ L, g kp.1 = some kp.2) →
    (∀ k p, g k = some p → ∃ q, exportKey db k = some q ∧ Raised q p) →
    ∀ k, (k ∈ L.map (·.1) → exportKey (importAll db L) k = g k) ∧
      (k ∉ L.map (·.1) → fetchAtt (importAll db L) k false = fetchAtt db k false ∧
        fetchProp (importAll db L) k false = fetchProp db k false)
  | [], db, _, _, k => ⟨fun h => (nomatch h), fun _ => ⟨rfl, rfl⟩⟩
  | (k0, p0) :: rest, db, hL, hg, k => by
    have hg0 : g k0 = some p0 := hL _ List.mem_cons_self
    obtain ⟨q, hq, hr⟩ := hg k0 p0 hg0
    have h1 := exportKey_importKey_raised db k0 p0 q hq hr
    have hg' : ∀ k p, g k = some p → ∃ q, exportKey (importKey db k0 p0) k = some q ∧ Raised q p := by
      intro k p hk
      by_cases e : k = k0
      · subst e; rw [hg0] at hk; cases hk; exact ⟨_, h1, Raised.refl _⟩
      · rw [exportKey_congr (fetchAtt_importKey_skipped (.inl e)) (fetchProp_importKey_skipped (.inl e))]
        exact hg k p hk
    obtain ⟨ihin, ihout⟩ := importAll_exact g rest (importKey db k0 p0)
      (fun kp h => hL kp (List.mem_cons_of_mem _ h)) hg' k
    simp only [importAll, List.map_cons, List.mem_cons]
    by_cases hin : k ∈ rest.map (·.1)
    · exact ⟨fun _ => ihin hin, fun h => absurd (Or.inr hin) h⟩
    · obtain ⟨ea, ep⟩ := ihout hin
      by_cases e : k = k0
      · subst e
        exact ⟨fun _ => by rw [exportKey_congr ea ep, h1, hg0], fun h => absurd (Or.inl rfl) h⟩
      · rw [fetchAtt_importKey_skipped (.inl e)] at ea
        rw [fetchProp_importKey_skipped (.inl e)] at ep
        exact ⟨fun h => absurd (h.resolve_right hin) e, fun _ => ⟨ea, ep⟩⟩

/-- the test that the flag is not empty has no clause of its own: 32 decoded bytes imply it -/
theorem importFile_ok {gvr : String} {db db' : Db} {f : IFile} :
    importFile gvr db f = .ok db' ↔ ∃ b m, f.metadata = some ("5", gvr) ∧ hexDecode0x gvr = some b ∧
      b.length = 32 ∧ exportable db = true ∧ mergeEntries db [] f.data = some m ∧ db' = importAll db m.final := by
  constructor
  · fun_cases importFile gvr db f
    case case9 v g hmeta hv _ b hb hl hg hx m hm =>
      intro h
      cases Decidable.not_not.mp hv
      cases Decidable.not_not.mp hg
      exact ⟨b, m, hmeta, hb, Decidable.not_not.mp hl, by simpa using hx, hm, (ImportResult.ok.inj h).symm⟩
    all_goals nofun
  · rintro ⟨b, m, hmeta, hb, hl, hx, hm, rfl⟩
    have he : ¬gvr.isEmpty = true := fun he => by
      rw [String.isEmpty_iff.mp he] at hb; cases hb; cases hl
    unfold importFile
    rw [hmeta]
    dsimp only
    rw [if_neg (Decidable.not_not.mpr rfl), if_neg he, hb]
    dsimp only
    rw [if_neg (Decidable.not_not.mpr hl), if_neg (Decidable.not_not.mpr rfl), hx, hm]
    rfl

/-- **What a successful import does**: the store exports exactly the merged record for every key the merged map
    binds (which keys, and to what, `mergeEntries_spec` says), and no other record is touched. -/
theorem importFile_exact {gvr : String} {db db' : Db} {f : IFile} (h : importFile gvr db f = .ok db') :
    ∃ m, mergeEntries db [] f.data = some m ∧
      (∀ k p, m.get k = some p → exportKey db' k = some p ∧ ∃ q, exportKey db k = some q ∧ ProtGe p q) ∧
      (∀ k, m.get k = none →
        fetchAtt db' k false = fetchAtt db k false ∧ fetchProp db' k false = fetchProp db k false) := by
  obtain ⟨_, m, _, _, _, hex, hm, rfl⟩ := importFile_ok.mp h
  have hg : ∀ k p, m.get k = some p → ∃ q, exportKey db k = some q ∧ Raised q p := fun k p hp =>
    let ⟨hr, h48⟩ := ((mergeEntries_spec db f.data [] m hm).1 k).2 p hp rfl
    ⟨_, exportKey_start db hex k h48, hr⟩
  have hx := importAll_exact m.get m.final db (fun _ => mem_final.mp) hg
  refine ⟨m, hm, fun k p hp => ?_, fun k hk => (hx k).2 fun hin => ?_⟩
  · obtain ⟨q, hq, hr⟩ := hg k p hp
    exact ⟨by rw [(hx k).1 (List.mem_map.mpr ⟨(k, p), mem_final.mpr hp, rfl⟩), hp], q, hq, hr.1⟩
  · obtain ⟨kp, hkp, rfl⟩ := List.mem_map.mp hin
    rw [mem_final.mp hkp] at hk
    cases hk

/-- per record, so also for a key whose other record does not decode (`exportKey` says nothing of such a key) -/
theorem import_fetch_ge {gvr : String} {db db' : Db} {f : IFile} (h : importFile gvr db f = .ok db') (k : Bytes) :
    (∀ st, fetchAtt db k false = some st →
      ∃ st', fetchAtt db' k false = some st' ∧ st.src ≤ st'.src ∧ st.tgt ≤ st'.tgt) ∧
    (∀ v, fetchProp db k false = some v → ∃ v', fetchProp db' k false = some v' ∧ v ≤ v') := by
  obtain ⟨m, _, hin, hout⟩ := importFile_exact h
  cases hk : m.get k with
  | none =>
    obtain ⟨ea, ep⟩ := hout k hk
    rw [ea, ep]
    exact ⟨fun st hst => ⟨st, hst, Int.le_refl _, Int.le_refl _⟩, fun v hv => ⟨v, hv, Int.le_refl _⟩⟩
  | some p =>
    obtain ⟨hp, q, hq, hge⟩ := hin k p hk
    obtain ⟨ea, ep⟩ := exportKey_some hq
    obtain ⟨ea', ep'⟩ := exportKey_some hp
    rw [ea, ep, ea', ep']
    exact ⟨fun st hst => ⟨_, rfl, by cases hst; exact hge.2⟩, fun v hv => ⟨_, rfl, by cases hv; exact hge.1⟩⟩

/-- wrong or missing metadata is rejected: no store comes back -/
theorem import_bad_metadata (gvr : String) (db : Db) (f : IFile)
    (h : f.metadata = none ∨ ∃ v g, f.metadata = some (v, g) ∧ (v ≠ "5" ∨ g ≠ gvr)) :
    ∃ r, importFile gvr db f = r ∧ (match r with | .error => True | .ok _ => False) := by
  refine ⟨_, rfl, ?_⟩
  cases hok : importFile gvr db f with
  | error => trivial
  | ok db' =>
    obtain ⟨_, _, hmeta, _⟩ := importFile_ok.mp hok
    rcases h with h | ⟨v, g, h, hbad⟩ <;> rw [h] at hmeta <;> cases hmeta
    exact hbad.elim (· rfl) (· rfl)

/-- a malformed key or number anywhere in the file makes the whole import fail -/
theorem import_parse_error (gvr : String) (db : Db) (f : IFile)
    (h : ∃ e ∈ f.data, hexDecode0x e.pubkey = none ∨ (∃ s ∈ e.blocks, ∀ v, parseInt64 s = some v → v < 0) ∨
         (∃ a ∈ e.atts, (∀ v, parseInt64 a.1 = some v → v < 0) ∨ (∀ v, parseInt64 a.2 = some v → v < 0))) :
    ∃ r, importFile gvr db f = r ∧ (match r with | .error => True | .ok _ => False) := by
  refine ⟨_, rfl, ?_⟩
  cases hok : importFile gvr db f with
  | error => trivial
  | ok db' =>
    obtain ⟨_, m, _, _, _, _, hm, _⟩ := importFile_ok.mp hok
    obtain ⟨e, he, hbad⟩ := h
    obtain ⟨kb, p', hkb, _, hbl, hat⟩ := (mergeEntries_spec db f.data [] m hm).2 e he
    rcases hbad with hb | ⟨s, hs, hb⟩ | ⟨a, ha, hb⟩
    · rw [hb] at hkb; cases hkb
    · obtain ⟨v, hv, hv0, _⟩ := hbl s hs
      have := hb v hv
      omega
    · obtain ⟨vs, vt, hvs, hvt, h0s, h0t, _, _⟩ := hat a ha
      rcases hb with hb | hb
      · have := hb vs hvs; omega
      · have := hb vt hvt; omega

/-- from the two statements above to the form Props/C10 states -/
theorem not_ok_of_error {r : ImportResult}
    (h : ∃ r', r = r' ∧ (match r' with | .error => True | .ok _ => False)) : ∀ db', r ≠ .ok db' := by
  obtain ⟨_, rfl, h⟩ := h
  intro db' e
  rw [e] at h
  exact h

end Dirk
