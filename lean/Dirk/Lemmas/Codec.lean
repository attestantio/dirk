/-
  Dirk.Lemmas.Codec — integer conversion and record codec round-trips.
-/
import Dirk.Model.Rules

namespace Dirk

theorem i64_inI64 (n : Nat) (h : n < two64) : InI64 (i64 n) := by
  unfold InI64 i64 two63 two64 at *; split <;> omega

theorem u64_lt (i : Int) (h : InI64 i) : u64 i < two64 := by
  unfold InI64 u64 two63 two64 at *; split <;> omega

theorem i64_u64 (i : Int) (h : InI64 i) : i64 (u64 i) = i := by
  unfold InI64 i64 u64 two63 two64 at *; split <;> split <;> omega

theorem u64_i64 (n : Nat) (h : n < two64) : u64 (i64 n) = n := by
  unfold i64 u64 two63 two64 at *; split <;> split <;> omega

theorem i64_small (n : Nat) (h : n ≤ maxI64) : i64 n = (n : Int) := by
  unfold i64 two63 maxI64 at *; split <;> omega

theorem inI64_of_le {n : Nat} (h : n ≤ maxI64) : InI64 (n : Int) := by
  unfold InI64 maxI64 two63 at *; omega

theorem inI64_neg_pred {n : Nat} (h : n ≤ maxI64) : InI64 (-(n : Int) - 1) := by
  unfold InI64 maxI64 two63 at *; omega

theorem u64_nonneg (i : Int) (h : 0 ≤ i) : (u64 i : Int) = i := by
  unfold u64; split <;> omega

theorem uint8_ofNat_toNat (n : Nat) : (UInt8.ofNat n).toNat = n % 256 := by
  simp [UInt8.toNat_ofNat']

/-- the number a little-endian byte string stands for -/
def leVal : Bytes → Nat
  | [] => 0
  | b :: bs => b.toNat + 256 * leVal bs

/-- the `k` low bytes of `n`, little-endian -/
def leBytes : Nat → Nat → Bytes
  | 0, _ => []
  | k + 1, n => UInt8.ofNat (n % 256) :: leBytes k (n / 256)

theorem leVal_lt (bs : Bytes) : leVal bs < 256 ^ bs.length := by
  induction bs with
  | nil => exact Nat.one_pos
  | cons b bs ih => have := b.toNat_lt; simp only [leVal, List.length_cons, Nat.pow_succ]; omega

theorem leVal_leBytes (k n : Nat) : leVal (leBytes k n) = n % 256 ^ k := by
  induction k generalizing n with
  | zero => simp [leBytes, leVal, Nat.mod_one]
  | succ k ih => simp only [leBytes, leVal, ih, uint8_ofNat_toNat, Nat.pow_succ', Nat.mod_mul, Nat.mod_mod]

theorem le64_eq_leBytes (n : Nat) : le64 n = leBytes 8 n := by
  simp only [le64, leBytes, Nat.div_div_eq_div_mul]

theorem unle64_lt (bs : Bytes) : unle64 bs < two64 := by
  unfold unle64
  split
  · exact Nat.lt_of_lt_of_eq (leVal_lt [_, _, _, _, _, _, _, _]) (show 256 ^ 8 = two64 by decide)
  · decide

theorem unle64_le64 (n : Nat) (h : n < two64) : unle64 (le64 n) = n := by
  rw [le64_eq_leBytes]
  exact (leVal_leBytes 8 n).trans (Nat.mod_eq_of_lt h)

theorem le64_length (n : Nat) : (le64 n).length = 8 := by simp [le64]

theorem decodeAtt_encodeAtt (s : AttState) (hs : InI64 s.src) (ht : InI64 s.tgt) :
    decodeAtt (encodeAtt s) = some s := by
  have h1 := u64_lt _ hs
  have h2 := u64_lt _ ht
  unfold decodeAtt encodeAtt
  simp only [↓reduceIte, List.length_append, le64_length]
  have e1 : (le64 (u64 s.src) ++ le64 (u64 s.tgt)).take 8 = le64 (u64 s.src) := by
    rw [List.take_append_of_le_length (by simp [le64_length])]
    exact List.take_of_length_le (by simp [le64_length])
  have e2 : (le64 (u64 s.src) ++ le64 (u64 s.tgt)).drop 8 = le64 (u64 s.tgt) := by
    rw [List.drop_append_of_le_length (by simp [le64_length])]
    rw [List.drop_of_length_le (by simp [le64_length])]; rfl
  rw [e1, e2, unle64_le64 _ h1, unle64_le64 _ h2, i64_u64 _ hs, i64_u64 _ ht]

theorem decodeProp_encodeProp (s : Int) (hs : InI64 s) : decodeProp (encodeProp s) = some s := by
  have h1 := u64_lt _ hs
  unfold decodeProp encodeProp
  simp only [↓reduceIte, le64_length, unle64_le64 _ h1, i64_u64 _ hs]

end Dirk
