/-
  Dirk.Lemmas.Coverage — what the stored records cover, and the two invariants stated with it.

  `Covers db pk s t` / `PCovers db pk n`: the attestation / proposal record stored for `pk` decodes and is at least
  (s, t) / n.  Both are built and used through `.of_fetch`, `.le`, `.congr` only.  Every write-back of the rules keeps
  every coverage fact, covers what it approved and approved it only above what was covered for its key: `covers_putMany`
  (single and batch path of the attestation rules, which `rulesKeyed_spec` of Lemmas/Calls.lean gives as one write-back),
  `pcovers_put` (the proposal rule); each rule leaves the records of the other kind alone (the `_frame` lemmas).
  `AttInv` / `PropInv` (behind C01 / C02, and C03, C10, C14): every released entry is covered by its key's record, and
  per key the released entries increase (`LogMono`, `PLogMono`).  `covered_extend`: how such a log is extended.  That every
  operation extends the logs in that way is `step_effect` in Lemmas/Run.lean; the induction over histories is there too.
-/
import Dirk.Lemmas.Calls
import Dirk.Lemmas.Range

namespace Dirk

/-- the record stored for `pk` is decodable, in int64 range, and at least (s, t) in both dimensions -/
def Covers (db : Db) (pk : Bytes) (s t : Nat) : Prop :=
  ∃ st, fetchAtt db pk false = some st ∧ InI64 st.src ∧ InI64 st.tgt ∧ (s : Int) ≤ st.src ∧ (t : Int) ≤ st.tgt

/-! `Covers` depends on the store through the fetched record only, and the range conjuncts come with the fetch
(Lemmas/Range): proofs build and use it through the next three lemmas. -/

theorem Covers.of_fetch {db : Db} {pk : Bytes} {st : AttState} (h : fetchAtt db pk false = some st) {s t : Nat}
    (hs : (s : Int) ≤ st.src) (ht : (t : Int) ≤ st.tgt) : Covers db pk s t :=
  ⟨st, h, (fetchAtt_inI64 h).1, (fetchAtt_inI64 h).2, hs, ht⟩

theorem Covers.le {db : Db} {pk : Bytes} {s t : Nat} (hc : Covers db pk s t) {st : AttState}
    (h : fetchAtt db pk false = some st) : (s : Int) ≤ st.src ∧ (t : Int) ≤ st.tgt := by
  obtain ⟨st0, h0, _, _, hs, ht⟩ := hc
  cases h0.symm.trans h
  exact ⟨hs, ht⟩

theorem Covers.congr {db db' : Db} {pk : Bytes} {s t : Nat} (hc : Covers db pk s t)
    (h : fetchAtt db' pk false = fetchAtt db pk false) : Covers db' pk s t := by
  obtain ⟨st, h0, r⟩ := hc
  exact ⟨st, h.trans h0, r⟩

/-- (`s`, `t` are naturals, so `st` is non-negative and the two comparisons of `AttOK` apply) -/
theorem AttOK.above {r : AttReq} {st : AttState} (hok : AttOK r st) {s t : Nat}
    (hs : (s : Int) ≤ st.src) (ht : (t : Int) ≤ st.tgt) : t < r.tgt ∧ s ≤ r.src :=
  have h0s : (0 : Int) ≤ st.src := Int.le_trans (Int.natCast_nonneg s) hs
  have h0t : (0 : Int) ≤ st.tgt := Int.le_trans (Int.natCast_nonneg t) ht
  ⟨Int.ofNat_lt.1 (Int.lt_of_le_of_lt ht (hok.2.2.2.2.1 h0t)), Int.ofNat_le.1 (Int.le_trans hs (hok.2.2.2.2.2 h0s))⟩

theorem attChecks_keeps (r : AttReq) {st : AttState} {s t : Nat} (hs : (s : Int) ≤ st.src) (ht : (t : Int) ≤ st.tgt) :
    (s : Int) ≤ (attChecks r st).2.src ∧ (t : Int) ≤ (attChecks r st).2.tgt := by
  rw [attChecks_eq]
  split
  · rename_i hok
    have := hok.above hs ht
    exact ⟨Int.ofNat_le.2 this.2, Int.ofNat_le.2 (Nat.le_of_lt this.1)⟩
  · exact ⟨hs, ht⟩

/-- `L`: the records fetched for the entries `W`, of distinct keys; the store after the write-back of the outcome of every
    check (what `rulesKeyed_spec` says a rules call leaves, on either path): every coverage fact is kept, and an entry that
    is acceptable against its record is covered and lies above everything covered for its key before. -/
theorem covers_putMany {α : Type} (req : α → AttReq) {db : Db} {W : List (Bytes × α)} {L : Bytes → AttState}
    (hn : (W.map (·.1)).Nodup) (hL : ∀ it ∈ W, fetchAtt db it.1 false = some (L it.1)) {db' : Db}
    (hdb : db' = db.putMany (W.map fun it => (attKey it.1, encodeAtt (attChecks (req it.2) (L it.1)).2))) :
    (∀ pk s t, Covers db pk s t → Covers db' pk s t) ∧
    ∀ it ∈ W, AttOK (req it.2) (L it.1) →
      Covers db' it.1 (req it.2).src (req it.2).tgt ∧
      ∀ s t, Covers db it.1 s t → t < (req it.2).tgt ∧ s ≤ (req it.2).src := by
  subst hdb
  -- after the write a key of `W` holds the outcome of its check, any other key what it held
  have hmem : ∀ it ∈ W, fetchAtt (db.putMany (W.map fun it =>
      (attKey it.1, encodeAtt (attChecks (req it.2) (L it.1)).2))) it.1 false = some (attChecks (req it.2) (L it.1)).2 :=
    fun it hit =>
      have hi := attChecks_inI64 (req it.2) (fetchAtt_inI64 (hL it hit)).1 (fetchAtt_inI64 (hL it hit)).2
      fetchAtt_putMany_mem db W (·.1) _ hn hit hi.1 hi.2
  refine ⟨fun pk s t hc => ?_, fun it hit hok => ?_⟩
  · by_cases hk : pk ∈ W.map (·.1)
    · obtain ⟨it, hit, rfl⟩ := List.mem_map.1 hk
      have hb := hc.le (hL it hit)
      have hk := attChecks_keeps (req it.2) hb.1 hb.2
      exact .of_fetch (hmem it hit) hk.1 hk.2
    · exact hc.congr (fetchAtt_putMany_notin db W (·.1) _ hk)
  · have hst' : (attChecks (req it.2) (L it.1)).2 = ⟨((req it.2).src : Int), ((req it.2).tgt : Int)⟩ := by
      rw [attChecks_eq, if_pos hok]
    exact ⟨.of_fetch (hmem it hit) (by rw [hst']; exact Int.le_refl _) (by rw [hst']; exact Int.le_refl _),
      fun s t hc => hok.above (hc.le (hL it hit)).1 (hc.le (hL it hit)).2⟩

/-- the proposal record stored for `pk` is decodable, in range, and at least `n` -/
def PCovers (db : Db) (pk : Bytes) (n : Nat) : Prop :=
  ∃ st, fetchProp db pk false = some st ∧ InI64 st ∧ (n : Int) ≤ st

/-! like `Covers`, `PCovers` is built and used through these three -/

theorem PCovers.of_fetch {db : Db} {pk : Bytes} {st : Int} (h : fetchProp db pk false = some st) {n : Nat}
    (hn : (n : Int) ≤ st) : PCovers db pk n :=
  ⟨st, h, fetchProp_inI64 h, hn⟩

theorem PCovers.le {db : Db} {pk : Bytes} {n : Nat} (hc : PCovers db pk n) {st : Int}
    (h : fetchProp db pk false = some st) : (n : Int) ≤ st := by
  obtain ⟨st0, h0, _, hn⟩ := hc
  cases h0.symm.trans h
  exact hn

theorem PCovers.congr {db db' : Db} {pk : Bytes} {n : Nat} (hc : PCovers db pk n)
    (h : fetchProp db' pk false = fetchProp db pk false) : PCovers db' pk n := by
  obtain ⟨st, h0, r⟩ := hc
  exact ⟨st, h.trans h0, r⟩

/-! ## frame lemmas: each rule writes records of its own kind only -/

theorem onPropose_att_frame (db : Db) (pk : Bytes) (r : PropReq) (f : Faults) (pk' : Bytes) :
    fetchAtt (onPropose db pk r f).2 pk' false = fetchAtt db pk' false := by
  rcases onPropose_cases db pk r f with ⟨h, _⟩ | ⟨_, _, _, h⟩
  · rw [h]
  · rw [h, fetchAtt_put_prop]

theorem onAttest_prop_frame (db : Db) (pk : Bytes) (r : AttReq) (f : Faults) (pk' : Bytes) :
    fetchProp (onAttest db pk r f).2 pk' false = fetchProp db pk' false := by
  rcases onAttest_cases db pk r f with ⟨h, _⟩ | ⟨_, _, _, h⟩
  · rw [h]
  · rw [h, fetchProp_put_att]

theorem rulesKeyed_prop_frame (db : Db) (keyed : List (Bytes × AttData)) (f : Faults) (pk' : Bytes) :
    fetchProp (rulesKeyed db keyed f).2 pk' false = fetchProp db pk' false := by
  obtain ⟨L, W, _, _, _, rfl, h | h, _⟩ := rulesKeyed_spec db keyed f
  · rw [h]
  · rw [h, fetchProp_putMany_att db W (·.1)]

theorem pcovers_put {db : Db} {pk : Bytes} {st : Int} {r : PropReq} (hf : fetchProp db pk false = some st)
    (hok : PropOK r st) :
    (∀ pk' n, PCovers db pk' n → PCovers (db.put (propKey pk) (encodeProp (r.slot : Int))) pk' n) ∧
    PCovers (db.put (propKey pk) (encodeProp (r.slot : Int))) pk r.slot ∧ ∀ n, PCovers db pk n → n < r.slot := by
  have hnew := fetchProp_put_prop_same db pk _ (inI64_of_le hok.2.1)
  -- everything covered for `pk` is at most the stored `st` (non-negative then), which the accepted slot exceeds
  have hlt : ∀ n, PCovers db pk n → n < r.slot := fun n hc =>
    have hn := hc.le hf
    Int.ofNat_lt.1 (Int.lt_of_le_of_lt hn (hok.2.2 (Int.le_trans (Int.natCast_nonneg n) hn)))
  refine ⟨fun pk' n hc => ?_, .of_fetch hnew (Int.le_refl _), hlt⟩
  by_cases hk : pk' = pk
  · subst hk
    exact .of_fetch hnew (Int.ofNat_le.2 (Nat.le_of_lt (hlt n hc)))
  · exact hc.congr (fetchProp_put_prop_other hk)

def VoteLt (a b : AttData) : Prop := a.tgt < b.tgt ∧ a.src ≤ b.src

def LogMono (log : List (Bytes × AttData)) : Prop :=
  log.Pairwise (fun a b => a.1 = b.1 → VoteLt a.2 b.2)

structure AttInv (s : Inst) : Prop where
  covered : ∀ e ∈ s.attLog, Covers s.db e.1 e.2.src e.2.tgt
  mono : LogMono s.attLog

def PLogMono (log : List (Bytes × PropData)) : Prop :=
  log.Pairwise (fun a b => a.1 = b.1 → a.2.slot < b.2.slot)

structure PropInv (s : Inst) : Prop where
  covered : ∀ e ∈ s.propLog, PCovers s.db e.1 e.2.slot
  mono : PLogMono s.propLog

/-! ## extending a covered, per-key increasing log (both logs) -/

theorem pairwise_key_filter {ε β : Type} {R : ε → ε → Prop} {S : β → β → Prop} {log : List (Bytes × ε)}
    (h : log.Pairwise fun a b => a.1 = b.1 → R a.2 b.2) (f : Bytes × ε → β)
    (hRS : ∀ a b, R a.2 b.2 → S (f a) (f b)) (k : Bytes) :
    ((log.filter fun e => e.1 = k).map f).Pairwise S := by
  refine List.pairwise_map.2 ((h.filter _).imp_of_mem fun ha hb hab => hRS _ _ (hab ?_))
  rw [of_decide_eq_true (List.mem_filter.1 ha).2, of_decide_eq_true (List.mem_filter.1 hb).2]

theorem pairwise_mem_or {α : Type} {R : α → α → Prop} {l : List α} (h : l.Pairwise R) {a b : α}
    (ha : a ∈ l) (hb : b ∈ l) (hne : a ≠ b) : R a b ∨ R b a :=
  (List.Pairwise.forall_of_forall_of_flip (R := fun x y => x = y ∨ R x y ∨ R y x) (fun _ _ => .inl rfl)
    (h.imp fun r => .inr (.inl r)) (h.imp fun r => .inr (.inr r)) ha hb).resolve_left hne

/-- `C k x`: the store covers entry `x` for key `k` (`C'`: the store afterwards); `R`: the order per key.  A new entry
    need only be above what was COVERED for its key: whatever was released for the key was covered, hence is below it. -/
theorem covered_extend {ε : Type} {R : ε → ε → Prop} {C C' : Bytes → ε → Prop} {log new : List (Bytes × ε)}
    (hcov : ∀ e ∈ log, C e.1 e.2) (hmono : log.Pairwise fun a b => a.1 = b.1 → R a.2 b.2)
    (hkeep : ∀ k x, C k x → C' k x) (hnd : (new.map (·.1)).Nodup)
    (hnew : ∀ e ∈ new, C' e.1 e.2 ∧ ∀ x, C e.1 x → R x e.2) :
    (∀ e ∈ log ++ new, C' e.1 e.2) ∧ (log ++ new).Pairwise fun a b => a.1 = b.1 → R a.2 b.2 :=
  ⟨fun e he => (List.mem_append.1 he).elim (fun h => hkeep _ _ (hcov e h)) fun h => (hnew e h).1,
   List.pairwise_append.2 ⟨hmono, (List.pairwise_map.1 hnd).imp fun hne he => absurd he hne,
     fun a ha b hb hab => (hnew b hb).2 _ (hab ▸ hcov a ha)⟩⟩

end Dirk
