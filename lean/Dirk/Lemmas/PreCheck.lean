/-
  Dirk.Lemmas.PreCheck — `preCheck` / `preCheckAll` and the lock-state fault (`lockStateFail`: every account
  fetched for the request answers `IsUnlocked()` with an error).  Core Lean only.
-/
import Dirk.Model.Instance

namespace Dirk

/-- so that `preCheck … = .ok acct` can be decided on closed terms -/
instance instDecidableEqExceptResAccount : DecidableEq (Except Res Account)
  | .ok a, .ok b => if h : a = b then isTrue (by rw [h]) else isFalse (by intro e; injection e with e; exact h e)
  | .error a, .error b => if h : a = b then isTrue (by rw [h]) else isFalse (by intro e; injection e with e; exact h e)
  | .ok _, .error _ => isFalse (by intro e; cases e)
  | .error _, .ok _ => isFalse (by intro e; cases e)

theorem preCheck_ok_iff {cfg : Config} {client : String} {a : Addr} {op : String} {lf : Bool} {acct : Account} :
    preCheck cfg client a op lf = .ok acct ↔
      fetchAccount cfg a = some acct ∧ check cfg.access client (acct.wallet ++ "/" ++ acct.name) op = true ∧
      lf = false ∧ acct.unlockable = true := by
  constructor
  · fun_cases preCheck cfg client a op lf
    case case5 x hf hc hlf hu =>
      intro h; cases h
      exact ⟨hf, by simpa using hc, by simpa using hlf, by simpa using hu⟩
    all_goals nofun
  · rintro ⟨h, hc, rfl, hu⟩
    simp [preCheck, h, hc, hu]

theorem preCheck_denied {cfg : Config} {client : String} {a : Addr} {op : String} {acct : Account} (lf : Bool)
    (hres : fetchAccount cfg a = some acct)
    (hden : check cfg.access client (acct.wallet ++ "/" ++ acct.name) op = false) :
    preCheck cfg client a op lf = .error .denied := by
  simp [preCheck, hres, hden]

/-- result of the pre-check of one request under the lock-state fault: DENIED when the account does not
    resolve or the permission check refuses it, FAILED otherwise — whatever `unlockable` says -/
def lockFaultRes (cfg : Config) (client : String) (a : Addr) (op : String) : Res :=
  match fetchAccount cfg a with
  | none => .denied
  | some acct => if check cfg.access client (acct.wallet ++ "/" ++ acct.name) op then .failed else .denied

theorem preCheck_lock_state_fault (cfg : Config) (client : String) (a : Addr) (op : String) :
    preCheck cfg client a op true = .error (lockFaultRes cfg client a op) := by
  unfold preCheck lockFaultRes
  cases fetchAccount cfg a with
  | none => rfl
  | some acct => cases h : check cfg.access client (acct.wallet ++ "/" ++ acct.name) op <;> simp [h]

theorem preCheck_ok {cfg : Config} {client : String} {a : Addr} {op : String} {lf : Bool} {acct : Account}
    (h : preCheck cfg client a op lf = .ok acct) : lf = false ∧ preCheck cfg client a op = .ok acct := by
  cases lf with
  | false => exact ⟨rfl, h⟩
  | true => rw [preCheck_lock_state_fault] at h; cases h

theorem preCheck_error_mono {cfg : Config} {client : String} {a : Addr} {op : String} {r : Res}
    (h : preCheck cfg client a op = .error r) (lf : Bool) : ∃ r', preCheck cfg client a op lf = .error r' := by
  cases lf with
  | false => exact ⟨r, h⟩
  | true => exact ⟨_, preCheck_lock_state_fault cfg client a op⟩

theorem preCheckAll_length {α : Type} (cfg : Config) (client op : String) (items : List (Addr × α)) (lf : Bool) :
    (preCheckAll cfg client op items lf).length = items.length := by
  simp [preCheckAll]

theorem preCheckAll_lock_state_fault {α : Type} (cfg : Config) (client op : String) (items : List (Addr × α)) :
    preCheckAll cfg client op items true = items.map (fun it => .error (lockFaultRes cfg client it.1 op)) := by
  unfold preCheckAll
  apply List.map_congr_left
  intro it _
  rw [preCheck_lock_state_fault]

theorem preCheckAll_lock_state_fault_any {α : Type} (cfg : Config) (client op : String)
    (items : List (Addr × α)) (hne : items ≠ []) :
    (preCheckAll cfg client op items true).any isErr = true := by
  rw [preCheckAll_lock_state_fault]
  cases items with
  | nil => exact absurd rfl hne
  | cons it rest => simp [isErr]

theorem preCheckAll_any_isErr_mono {α : Type} (cfg : Config) (client op : String) (items : List (Addr × α))
    (h : (preCheckAll cfg client op items).any isErr = true) (lf : Bool) :
    (preCheckAll cfg client op items lf).any isErr = true := by
  cases lf with
  | false => exact h
  | true =>
    apply preCheckAll_lock_state_fault_any
    intro hnil; subst hnil; simp [preCheckAll] at h

theorem preCheckAll_not_any_isErr {α : Type} {cfg : Config} {client op : String} {items : List (Addr × α)}
    {lf : Bool} (hne : items ≠ []) (h : ¬ (preCheckAll cfg client op items lf).any isErr = true) : lf = false := by
  cases lf with
  | false => rfl
  | true => exact absurd (preCheckAll_lock_state_fault_any cfg client op items hne) h

end Dirk
