/-
  Dirk.Lemmas.PermsRefine — what the refinement theorem of C07 (`Check` = `Spec.firstBearing`, Dirk.Props.C07)
  rests on below the property level: the compiled form of "an entry matches", the parser-shape hypothesis, one
  compiled pattern against the specification's whole-name match, and `compileEntries` / `compilePerms` as
  order- and key-preserving pointwise maps.  Core Lean only.
-/
import Dirk.Spec.Perms
import Dirk.Lemmas.RegexAnchor

namespace Dirk
open Spec

/-- an entry "matches" in the compiled form -/
def cmatches (w a : String) (p : CPath) : Bool := Re.search p.wallet w && Re.search p.account a

/-- the body `regexify` wraps: the pattern itself, `.*` for the empty pattern -/
def rxBody (pat : String) : String := if pat.isEmpty then ".*" else pat

/-- what the parser makes of `regexify`'s output: the parse of `(?i)body` put between the two
    assertions.  This is a fact about the string-level parser; it is not proved.  For every pattern the
    correspondence check uses, the driver's `jshape` (Driver/Engines.lean) evaluates a textual copy of this
    definition, with its own `body` and `anch` (the driver imports no Lemmas module): keep the two in step. -/
def ShapeOK (pat : String) : Prop :=
  ReParse.parse (regexify pat) = (ReParse.parse ("(?i)" ++ rxBody pat)).map Re.anch

/-- every wallet/account pattern of every entry parses to the anchored shape (hypothesis of C07_entry_matches_spec;
    how the driver evaluates it for the patterns in use is said at `ShapeOK`) -/
def PermsShapeOK (perms : Perms) : Prop :=
  ∀ ce ∈ perms, ∀ e ∈ ce.2, ∀ pw pa, walletAndAccount e.path = some (pw, pa) → ShapeOK pw ∧ ShapeOK pa

theorem scanOps_eq (op : String) (ops : List String) :
    scanOps op ops = (ops.filterMap (bearing op)).head? := by
  fun_induction scanOps op ops with
  | case1 => rfl
  | case2 o os h => rw [List.filterMap_cons, bearing, if_pos h]; rfl
  | case3 o os h1 h2 => rw [List.filterMap_cons, bearing, if_neg h1, if_pos h2]; rfl
  | case4 o os h1 h2 ih => rw [List.filterMap_cons, bearing, if_neg h1, if_neg h2]; exact ih

theorem search_regexify {pat : String} {r : Re} (hs : ShapeOK pat) (hp : ReParse.parse (regexify pat) = some r)
    (name : String) : Re.search r name = patMatches pat name := by
  obtain ⟨b, hb, rfl⟩ := Option.map_eq_some_iff.mp (hs.symm.trans hp)
  unfold patMatches
  rw [show ReParse.parse ("(?i)" ++ if pat.isEmpty then ".*" else pat) = some b from hb]
  exact Re.search_anchored_parsed_shape b name

theorem compileEntry_some {rx : String → String} {e : PermEntry} {c : CPath} (h : compileEntry rx e = some c) :
    ∃ pw pa, walletAndAccount e.path = some (pw, pa) ∧ ReParse.parse (rx pw) = some c.wallet ∧
      ReParse.parse (rx pa) = some c.account ∧ c.ops = e.ops := by
  revert h
  fun_cases compileEntry rx e
  case case3 pw pa hwa _ rw ra ha hw => exact fun h => Option.some.inj h ▸ ⟨pw, pa, hwa, hw, ha, rfl⟩
  all_goals nofun

/-- `compileEntries` is a pointwise map: induction over a source list and its compilation together. -/
theorem compileEntries_induction {rx : String → String} {motive : List PermEntry → List CPath → Prop}
    (nil : motive [] [])
    (cons : ∀ {e es c cs}, compileEntry rx e = some c → compileEntries rx es = some cs → motive es cs →
      motive (e :: es) (c :: cs))
    {es : List PermEntry} {cs : List CPath} (h : compileEntries rx es = some cs) : motive es cs := by
  fun_induction compileEntries rx es generalizing cs with
  | case1 => cases h; exact nil
  | case2 e es c cs0 h1 h2 ih => cases h; exact cons h2 h1 (ih h1)
  | case3 => cases h

theorem compileEntries_length (rx : String → String) (es : List PermEntry) (cs : List CPath)
    (h : compileEntries rx es = some cs) : cs.length = es.length :=
  compileEntries_induction (motive := fun es cs => cs.length = es.length) rfl
    (fun _ _ ih => congrArg Nat.succ ih) h

theorem compileEntries_pointwise (rx : String → String) (es : List PermEntry) (cs : List CPath)
    (h : compileEntries rx es = some cs) :
    ∀ p ∈ es.zip cs, compileEntry rx p.1 = some p.2 :=
  compileEntries_induction (motive := fun es cs => ∀ p ∈ es.zip cs, compileEntry rx p.1 = some p.2)
    (fun _ hp => nomatch hp)
    (fun h1 _ ih p hp => by
      rcases List.mem_cons.1 hp with rfl | hp
      · exact h1
      · exact ih p hp) h

theorem compileEntries_filter_ops {rx : String → String} {es : List PermEntry} {cs : List CPath}
    (h : compileEntries rx es = some cs) {p : PermEntry → Bool} {q : CPath → Bool}
    (hpq : ∀ e ∈ es, ∀ c, compileEntry rx e = some c → q c = p e) :
    (cs.filter q).flatMap (·.ops) = (es.filter p).flatMap (·.ops) := by
  revert hpq
  refine compileEntries_induction (motive := fun es cs =>
    (∀ e ∈ es, ∀ c, compileEntry rx e = some c → q c = p e) →
      (cs.filter q).flatMap (·.ops) = (es.filter p).flatMap (·.ops)) (fun _ => rfl) ?_ h
  intro e es c cs h1 _ ih hpq
  obtain ⟨_, _, _, _, _, hops⟩ := compileEntry_some h1
  have ih := ih fun e' he' => hpq e' (List.mem_cons_of_mem _ he')
  rw [List.filter_cons, List.filter_cons, hpq e List.mem_cons_self c h1]
  split
  · rw [List.flatMap_cons, List.flatMap_cons, hops, ih]
  · exact ih

/-- `lookup` commutes with compilation: first match on both sides; no no-duplicates hypothesis is needed
    because `compilePerms` preserves the order and the keys.  This is the form the refinement
    (`C07_check_refines_spec`) uses: `(k, es) ∈ perms` is what `PermsShapeOK` is applied to. -/
theorem compilePerms_lookup (rx : String → String) (perms : Perms) (acc : Access) (client : String)
    (h : compilePerms rx perms = some acc) :
    (perms.lookup client = none ∧ acc.lookup client = none) ∨
    ∃ es cs, perms.lookup client = some es ∧ acc.lookup client = some cs ∧
      compileEntries rx es = some cs ∧ ∃ k, (k, es) ∈ perms := by
  fun_induction compilePerms rx perms generalizing acc with
  | case1 => cases h; exact .inl ⟨rfl, rfl⟩
  | case2 | case3 | case5 => cases h
  | case4 k es rest _ _ cs acc0 h2 h1 ih =>
    cases h
    simp only [List.lookup_cons]
    cases hk : client == k with
    | true => exact .inr ⟨es, cs, rfl, rfl, h1, k, List.mem_cons_self⟩
    | false =>
      rcases ih acc0 h2 with ⟨hn1, hn2⟩ | ⟨es', cs', hl1, hl2, hce, k', hmem⟩
      · exact .inl ⟨hn1, hn2⟩
      · exact .inr ⟨es', cs', hl1, hl2, hce, k', List.mem_cons_of_mem _ hmem⟩

/-- `compilePerms_lookup` as one equation: the compiled list found for a client is the compilation of the source
    list found for it.  Nothing uses it. -/
theorem compilePerms_lookup_map (rx : String → String) (perms : Perms) (acc : Access) (client : String)
    (h : compilePerms rx perms = some acc) :
    (acc.lookup client).map some = (perms.lookup client).map (compileEntries rx) := by
  rcases compilePerms_lookup rx perms acc client h with ⟨h1, h2⟩ | ⟨es, cs, h1, h2, h3, _⟩
  · rw [h1, h2]; rfl
  · rw [h1, h2]; simp only [Option.map_some, h3]

end Dirk

#print axioms Dirk.compilePerms_lookup
#print axioms Dirk.compileEntries_filter_ops
