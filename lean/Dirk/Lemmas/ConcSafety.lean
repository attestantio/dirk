/-
  Dirk.Lemmas.ConcSafety — safety of the lock protocol modelled in Dirk.Model.Conc.

  Every step is a step of one thread's own program (`PCStep`, `Step.thread`); what concerns that thread
  alone (its request, its phase, its remaining work) is read off there, without any invariant.  What the
  threads share is in the inductive invariant `Inv`: both kinds of lock are held by exactly the thread
  whose state says so (`LockOK`), and what a thread has read is still in the store.  From these: mutual
  exclusion per key, atomicity of every commit step (the linearisation point), linearizability of every
  execution with respect to the sequential meaning `applyReq` in commit order, and the real-time-order
  facts about commit steps (`commit_between`).  Core Lean only.
-/
import Dirk.Model.Conc
namespace Dirk.Conc
variable {Val : Type}

theorem lt_length_of_getElem? {α : Type} {l : List α} {i : Nat} {a : α} (hi : l[i]? = some a) :
    i < l.length :=
  let ⟨h, _⟩ := List.getElem?_eq_some_iff.mp hi; h

theorem mem_take_succ {l : List Key} {i : Nat} {k0 : Key} (hi : l[i]? = some k0) (k : Key) :
    k ∈ l.take (i + 1) ↔ k ∈ l.take i ∨ k = k0 := by
  rw [List.take_add_one, hi]; simp

theorem not_mem_take_of_nodup {l : List Key} (hn : l.Nodup) {i : Nat} {k : Key}
    (hi : l[i]? = some k) : k ∉ l.take i := by
  have := hn.sublist (List.take_sublist (i + 1) l)
  rw [List.take_add_one, hi] at this
  exact fun hm => (List.nodup_append.mp this).2.2 k hm k (List.mem_singleton.mpr rfl) rfl

theorem get_setT {ts : List (TState Val)} {t : Tid} {x : TState Val} (h : ts[t]? = some x)
    (y : TState Val) (t' : Tid) :
    (setT ts t y)[t']? = if t' = t then some y else ts[t']? := by
  unfold setT
  rw [List.getElem?_set, if_pos (lt_length_of_getElem? h)]
  simp only [eq_comm]

theorem initState_get {reqs : List (Req Val)} {db0 c0 : Key → Val} {t : Tid} {x : TState Val}
    (h : (initState reqs db0 c0).ts[t]? = some x) : x.pc = .idle ∧ x.req ∈ reqs := by
  simp only [initState, List.getElem?_map, Option.map_eq_some_iff] at h
  obtain ⟨r, hr, rfl⟩ := h
  exact ⟨rfl, List.mem_of_getElem? hr⟩

/-- the phase of a program counter -/
def PC.rank : PC → Nat
  | .idle => 0 | .locking _ => 1 | .reading _ => 2 | .unlocking _ => 3 | .done => 4

/-- the counter of the phase, 0 where there is none -/
def PC.arg : PC → Nat
  | .locking i => i | .reading r => r | .unlocking u => u | _ => 0

/-- the phase a thread is in before / after taking a step with the given label -/
def Label.before : Label → Nat
  | .pre => 0 | .lock _ => 1 | .post => 1 | .read _ => 2 | .commit => 2 | .unlock _ => 3 | .finish => 3
def Label.after : Label → Nat
  | .pre => 1 | .lock _ => 1 | .post => 2 | .read _ => 2 | .commit => 3 | .unlock _ => 3 | .finish => 4

/-- what the steps of `Step` do to the program counter of the thread that takes them, `n` being the
    number of its keys: the thread program of the header of Dirk.Model.Conc as an automaton -/
inductive PCStep (n : Nat) : Label → PC → PC → Prop where
  | pre : PCStep n .pre .idle (.locking 0)
  | lock {i : Nat} {k : Key} : i < n → PCStep n (.lock k) (.locking i) (.locking (i + 1))
  | post : PCStep n .post (.locking n) (.reading 0)
  | read {r : Nat} {k : Key} : r < n → PCStep n (.read k) (.reading r) (.reading (r + 1))
  | commit : PCStep n .commit (.reading n) (.unlocking n)
  | unlock {u : Nat} {k : Key} : u < n → PCStep n (.unlock k) (.unlocking (u + 1)) (.unlocking u)
  | finish : PCStep n .finish (.unlocking 0) .done

theorem PCStep.rank {n : Nat} {l : Label} {p q : PC} (h : PCStep n l p q) :
    p.rank = l.before ∧ q.rank = l.after := by
  cases h <;> exact ⟨rfl, rfl⟩

/-- each step's own guard keeps the counter in range -/
theorem PCStep.arg_le {n : Nat} {l : Label} {p q : PC} (h : PCStep n l p q) : q.arg ≤ n := by
  cases h
  case pre | post | finish => exact Nat.zero_le n
  case lock h | read h => exact h
  case commit => exact Nat.le_refl n
  case unlock h => exact Nat.le_of_lt h

theorem Step.thread {s s' : CState Val} {t : Tid} {l : Label} (st : Step s t l s') :
    ∃ x y, s.ts[t]? = some x ∧ s'.ts = setT s.ts t y ∧ y.req = x.req ∧
      PCStep x.req.keys.length l x.pc y.pc := by
  cases st
  case pre x hx hpc _ => exact ⟨x, _, hx, rfl, rfl, hpc ▸ .pre⟩
  case lock x _ _ hx hpc hk _ => exact ⟨x, _, hx, rfl, rfl, hpc ▸ .lock (lt_length_of_getElem? hk)⟩
  case post x hx hpc => exact ⟨x, _, hx, rfl, rfl, hpc ▸ .post⟩
  case read x _ _ hx hpc hk => exact ⟨x, _, hx, rfl, rfl, hpc ▸ .read (lt_length_of_getElem? hk)⟩
  case commit x hx hpc => exact ⟨x, _, hx, rfl, rfl, hpc ▸ .commit⟩
  case unlock x _ _ hx hpc hk => exact ⟨x, _, hx, rfl, rfl, hpc ▸ .unlock (lt_length_of_getElem? hk)⟩
  case finish x hx hpc => exact ⟨x, _, hx, rfl, rfl, hpc ▸ .finish⟩

theorem Exec.preserves {P : CState Val → Prop}
    (hP : ∀ {s s' : CState Val} {t : Tid} {l : Label}, Step s t l s' → P s → P s')
    {s s' : CState Val} {tr : List (Tid × Label)} (he : Exec s tr s') (h : P s) : P s' := by
  induction he with
  | nil _ => exact h
  | cons st _ ih => exact ih (hP st h)

theorem req_stable {s s' : CState Val} {t : Tid} {l : Label} (st : Step s t l s') (t' : Tid) :
    (s'.ts[t']?).map (·.req) = (s.ts[t']?).map (·.req) := by
  obtain ⟨x, y, hx, hs, hreq, -⟩ := st.thread
  rw [hs, get_setT hx]
  split
  · subst t'; rw [hx, Option.map_some, Option.map_some, hreq]
  · rfl

theorem req_stable_exec {s s' : CState Val} {tr : List (Tid × Label)} (he : Exec s tr s') (t' : Tid) :
    (s'.ts[t']?).map (·.req) = (s.ts[t']?).map (·.req) :=
  Exec.preserves (P := fun a => (a.ts[t']?).map (·.req) = (s.ts[t']?).map (·.req))
    (fun st h => (req_stable st t').trans h) he rfl

/-- a lock agrees with the thread states: its holder is the thread whose state satisfies `has`, if
    there is one.  `Inv.held_iff` says this of every key lock (`owns · k`), `Inv.global_iff` of the
    locker-wide mutex (being in the locking phase). -/
def LockOK (ts : List (TState Val)) (holder : Option Tid) (has : TState Val → Prop) : Prop :=
  ∀ t, holder = some t ↔ ∃ x, ts[t]? = some x ∧ has x

namespace LockOK
variable {ts : List (TState Val)} {holder : Option Tid} {has : TState Val → Prop} {t : Tid}
  {x y : TState Val}

theorem self (h : LockOK ts holder has) (hx : ts[t]? = some x) : holder = some t ↔ has x :=
  (h t).trans ⟨fun ⟨_, hx', o⟩ => Option.some.inj (hx.symm.trans hx') ▸ o, fun o => ⟨x, hx, o⟩⟩

theorem excl (h : LockOK ts holder has) {t₁ t₂ : Tid} {x₁ x₂ : TState Val} (h₁ : ts[t₁]? = some x₁)
    (h₂ : ts[t₂]? = some x₂) (o₁ : has x₁) (o₂ : has x₂) : t₁ = t₂ :=
  Option.some.inj (((h.self h₁).mpr o₁).symm.trans ((h.self h₂).mpr o₂))

theorem free (hn : ∀ (t : Tid) (x : TState Val), ts[t]? = some x → ¬ has x) : LockOK ts none has :=
  fun t => ⟨nofun, fun ⟨x, hx, o⟩ => absurd o (hn t x hx)⟩

theorem update (h : LockOK ts holder has) (hx : ts[t]? = some x) {holder' : Option Tid}
    (ht : holder' = some t ↔ has y) (ho : ∀ t', t' ≠ t → (holder' = some t' ↔ holder = some t')) :
    LockOK (setT ts t y) holder' has := by
  intro t'
  rw [get_setT hx]
  split
  · subst t'; exact ht.trans ⟨fun o => ⟨y, rfl, o⟩, fun ⟨_, hy, o⟩ => Option.some.inj hy ▸ o⟩
  · exact (ho t' ‹_›).trans (h t')

theorem same (h : LockOK ts holder has) (hx : ts[t]? = some x) (hy : has y ↔ has x) :
    LockOK (setT ts t y) holder has :=
  h.update hx ((h.self hx).trans hy.symm) (fun _ _ => Iff.rfl)

theorem acquire (h : LockOK ts holder has) (hx : ts[t]? = some x) (hfree : holder = none)
    (hy : has y) : LockOK (setT ts t y) (some t) has :=
  h.update hx ⟨fun _ => hy, fun _ => rfl⟩ fun t' e => by
    rw [hfree]; exact ⟨fun q => absurd (Option.some.inj q).symm e, nofun⟩

theorem release (h : LockOK ts holder has) (hx : ts[t]? = some x) (hheld : has x) (hy : ¬ has y) :
    LockOK (setT ts t y) none has :=
  h.update hx ⟨nofun, fun o => absurd o hy⟩ fun t' e => by
    rw [(h.self hx).mpr hheld]; exact ⟨nofun, fun q => absurd (Option.some.inj q).symm e⟩

end LockOK

def owns (x : TState Val) (k : Key) : Prop :=
  match x.pc with
  | .locking i => k ∈ x.req.keys.take i
  | .reading _ => k ∈ x.req.keys
  | .unlocking u => k ∈ x.req.keys.take u
  | _ => False

theorem owns_locking {x : TState Val} {i : Nat} (hpc : x.pc = .locking i) (k : Key) :
    owns x k ↔ k ∈ x.req.keys.take i := by unfold owns; rw [hpc]
theorem owns_reading {x : TState Val} {r : Nat} (hpc : x.pc = .reading r) (k : Key) :
    owns x k ↔ k ∈ x.req.keys := by unfold owns; rw [hpc]
theorem owns_unlocking {x : TState Val} {u : Nat} (hpc : x.pc = .unlocking u) (k : Key) :
    owns x k ↔ k ∈ x.req.keys.take u := by unfold owns; rw [hpc]
theorem owns_idle {x : TState Val} (hpc : x.pc = .idle) (k : Key) : ¬ owns x k := by
  unfold owns; rw [hpc]; exact id
theorem owns_done {x : TState Val} (hpc : x.pc = .done) (k : Key) : ¬ owns x k := by
  unfold owns; rw [hpc]; exact id

structure Inv (s : CState Val) : Prop where
  wf : ∀ (t : Tid) (x : TState Val), s.ts[t]? = some x → x.req.keys.Nodup ∧
        (∀ i, x.pc = .locking i → i ≤ x.req.keys.length) ∧
        (∀ r, x.pc = .reading r → r ≤ x.req.keys.length) ∧
        (∀ u, x.pc = .unlocking u → u ≤ x.req.keys.length)
  held_iff : ∀ (k : Key) (t : Tid), s.held k = some t ↔ ∃ x, s.ts[t]? = some x ∧ owns x k
  global_iff : ∀ (t : Tid), s.global = some t ↔ ∃ x i, s.ts[t]? = some x ∧ x.pc = .locking i
  cache_ok : ∀ (t : Tid) (x : TState Val) (r : Nat), s.ts[t]? = some x → x.pc = .reading r →
        ∀ j, j < r → ∀ k, x.req.keys[j]? = some k → x.cache k = s.db k

theorem Inv.held {s : CState Val} (h : Inv s) (k : Key) : LockOK s.ts (s.held k) (owns · k) :=
  h.held_iff k

theorem globalOK_iff {ts : List (TState Val)} {g : Option Tid} :
    LockOK ts g (·.pc.rank = 1) ↔
      ∀ t, g = some t ↔ ∃ x i, ts[t]? = some x ∧ x.pc = .locking i := by
  have : ∀ pc : PC, pc.rank = 1 ↔ ∃ i, pc = .locking i := fun pc => by cases pc <;> simp [PC.rank]
  simp only [LockOK, this, exists_and_left]

theorem Inv.global {s : CState Val} (h : Inv s) : LockOK s.ts s.global (·.pc.rank = 1) :=
  globalOK_iff.mpr h.global_iff

/-- `Inv.wf` of one thread -/
theorem wf_of_arg {x : TState Val} (hn : x.req.keys.Nodup) (hb : x.pc.arg ≤ x.req.keys.length) :
    x.req.keys.Nodup ∧ (∀ i, x.pc = .locking i → i ≤ x.req.keys.length) ∧
      (∀ r, x.pc = .reading r → r ≤ x.req.keys.length) ∧
      (∀ u, x.pc = .unlocking u → u ≤ x.req.keys.length) :=
  ⟨hn, fun _ e => by rw [e] at hb; exact hb, fun _ e => by rw [e] at hb; exact hb,
    fun _ e => by rw [e] at hb; exact hb⟩

theorem Inv.nodup {s : CState Val} (h : Inv s) {t : Tid} {x : TState Val} (hx : s.ts[t]? = some x) :
    x.req.keys.Nodup :=
  (h.wf t x hx).1

theorem Inv.bound {s : CState Val} (h : Inv s) {t : Tid} {x : TState Val} (hx : s.ts[t]? = some x)
    {pc : PC} (hpc : x.pc = pc) : pc.arg ≤ x.req.keys.length := by
  have ⟨_, h1, h2, h3⟩ := h.wf t x hx
  cases pc with
  | locking i => exact h1 i hpc
  | reading r => exact h2 r hpc
  | unlocking u => exact h3 u hpc
  | _ => exact Nat.zero_le _

theorem mutual_exclusion {s : CState Val} (h : Inv s) (t₁ t₂ : Tid) (x₁ x₂ : TState Val) (k : Key)
    (h₁ : s.ts[t₁]? = some x₁) (h₂ : s.ts[t₂]? = some x₂) (o₁ : owns x₁ k) (o₂ : owns x₂ k) :
    t₁ = t₂ :=
  (h.held k).excl h₁ h₂ o₁ o₂

theorem inv_init (reqs : List (Req Val)) (db0 c0 : Key → Val) (hnd : ∀ r ∈ reqs, r.keys.Nodup) :
    Inv (initState reqs db0 c0) where
  wf t x h := by
    obtain ⟨hpc, hm⟩ := initState_get h
    exact wf_of_arg (hnd _ hm) (by rw [hpc]; exact Nat.zero_le _)
  held_iff k := LockOK.free fun _ _ h => owns_idle (initState_get h).1 k
  global_iff := globalOK_iff.mp <| LockOK.free fun _ _ h => by rw [(initState_get h).1]; decide
  cache_ok _ _ _ h e := nomatch (initState_get h).1.symm.trans e

theorem held_heldSet {s : CState Val} (h : Inv s) {t : Tid} {x y : TState Val} (hx : s.ts[t]? = some x)
    {k0 : Key} {v : Option Tid} (h0 : LockOK (setT s.ts t y) v (owns · k0))
    (hne : ∀ k, k ≠ k0 → (owns y k ↔ owns x k)) (k : Key) :
    LockOK (setT s.ts t y) (heldSet s.held k0 v k) (owns · k) := by
  fun_cases heldSet s.held k0 v k
  · subst k; exact h0
  · exact (h.held k).same hx (hne k ‹_›)

theorem held_step {s s' : CState Val} {t : Tid} {l : Label} (h : Inv s) (st : Step s t l s')
    (k : Key) : LockOK s'.ts (s'.held k) (owns · k) := by
  cases st
  case lock x i k0 hx hpc hk hfree =>
    have ho : ∀ k, owns (x.withPc (.locking (i + 1))) k ↔ owns x k ∨ k = k0 := fun k => by
      rw [owns_locking (i := i + 1) rfl, owns_locking hpc]; exact mem_take_succ hk k
    exact held_heldSet h hx ((h.held k0).acquire hx hfree ((ho k0).mpr (.inr rfl)))
      (fun k e => (ho k).trans (or_iff_left e)) k
  case unlock x u k0 hx hpc hk =>
    -- the key given back is not among the first `u`, the keys being distinct
    have hy : ∀ k, owns (x.withPc (.unlocking u)) k ↔ k ∈ x.req.keys.take u := owns_unlocking rfl
    have ho : ∀ k, owns x k ↔ owns (x.withPc (.unlocking u)) k ∨ k = k0 := fun k => by
      rw [owns_unlocking hpc, hy]; exact mem_take_succ hk k
    exact held_heldSet h hx ((h.held k0).release hx ((ho k0).mpr (.inr rfl)) fun o =>
      not_mem_take_of_nodup (h.nodup hx) hk ((hy k0).mp o)) (fun k e => ((ho k).trans (or_iff_left e)).symm) k
  -- the other steps leave the lock table alone and the thread owns the same keys before and after
  all_goals exact (h.held k).same ‹_› (by simp [owns, TState.withPc, TState.withRead, *])

theorem global_step {s s' : CState Val} {t : Tid} {l : Label} (h : Inv s) (st : Step s t l s') :
    LockOK s'.ts s'.global (·.pc.rank = 1) := by
  cases st
  case pre x hx hpc hg => exact h.global.acquire hx hg rfl
  case post x hx hpc => exact h.global.release hx (by rw [hpc]; rfl) (by simp [PC.rank, TState.withPc])
  -- the other steps leave the mutex alone and begin and end inside, or outside, the locking phase
  all_goals exact h.global.same ‹_› (by simp [PC.rank, TState.withPc, TState.withRead, *])

/-- `Inv.cache_ok` of one thread: what it has read so far is what the store `db` holds -/
def CacheOK (x : TState Val) (db : Key → Val) : Prop :=
  ∀ r, x.pc = .reading r → ∀ j, j < r → ∀ k, x.req.keys[j]? = some k → x.cache k = db k

theorem cache_setT {s : CState Val} (h : Inv s) {t : Tid} {x y : TState Val} (hx : s.ts[t]? = some x)
    {db' : Key → Val} (hy : CacheOK y db')
    (hother : ∀ (t' : Tid) (x' : TState Val) (k : Key), t' ≠ t → s.ts[t']? = some x' → owns x' k →
      db' k = s.db k) :
    ∀ (t' : Tid) (x' : TState Val), (setT s.ts t y)[t']? = some x' → CacheOK x' db' := by
  intro t' x' h'
  rw [get_setT hx] at h'
  split at h'
  · cases h'; exact hy
  · exact fun r hr j hj k hk => (h.cache_ok t' x' r h' hr j hj k hk).trans
      (hother t' x' k ‹_› h' ((owns_reading hr k).mpr (List.mem_of_getElem? hk))).symm

theorem cache_step {s s' : CState Val} {t : Tid} {l : Label} (h : Inv s) (st : Step s t l s') :
    ∀ (t' : Tid) (x' : TState Val), s'.ts[t']? = some x' → CacheOK x' s'.db := by
  cases st
  case post x hx hpc =>
    exact cache_setT h hx (fun _ e _ hj => by cases e; exact absurd hj (Nat.not_lt_zero _))
      fun _ _ _ _ _ _ => rfl
  case read x r k0 hx hpc hk =>
    refine cache_setT h hx (fun _ e j hj k hkj => ?_) fun _ _ _ _ _ _ => rfl
    cases e
    show (if k = k0 then s.db k0 else x.cache k) = s.db k
    split
    · subst k; rfl
    · have hjr : j ≠ r := fun q => by subst q; exact ‹¬ k = k0› (Option.some.inj (hkj.symm.trans hk))
      exact h.cache_ok t x r hx hpc j (Nat.lt_of_le_of_ne (Nat.le_of_lt_succ hj) hjr) k hkj
  case commit x hx hpc =>
    -- a key another thread owns is not one of the keys written here
    exact cache_setT h hx (fun _ e => nomatch e) fun t' x' k e hx' o => if_neg fun hm =>
      e (mutual_exclusion h t' t x' x k hx' hx o ((owns_reading hpc k).mpr hm))
  -- the other steps leave the store alone and end outside the reading phase
  all_goals exact cache_setT h ‹_› (fun _ e => nomatch e) fun _ _ _ _ _ _ => rfl

theorem inv_step {s s' : CState Val} {t : Tid} {l : Label} (h : Inv s) (st : Step s t l s') :
    Inv s' where
  wf t' x' h' := by
    obtain ⟨x, y, hx, hs, hreq, hp⟩ := st.thread
    rw [hs, get_setT hx] at h'
    split at h'
    · cases h'; exact wf_of_arg (hreq ▸ h.nodup hx) (hreq ▸ hp.arg_le)
    · exact h.wf t' x' h'
  held_iff := held_step h st
  global_iff := globalOK_iff.mp (global_step h st)
  cache_ok t' x' r h' := cache_step h st t' x' h' r

theorem inv_exec {s s' : CState Val} {tr : List (Tid × Label)} (h : Inv s) (he : Exec s tr s') :
    Inv s' :=
  Exec.preserves (fun st h => inv_step h st) he h

theorem inv_reachable (reqs : List (Req Val)) (db0 c0 : Key → Val) (hnd : ∀ r ∈ reqs, r.keys.Nodup)
    (s : CState Val) (hr : Reachable reqs db0 c0 s) : Inv s :=
  let ⟨_, he⟩ := hr; inv_exec (inv_init reqs db0 c0 hnd) he

theorem db_unchanged {s s' : CState Val} {t : Tid} {l : Label} (st : Step s t l s')
    (hl : l ≠ .commit) : s'.db = s.db := by
  cases st
  case commit => exact absurd rfl hl
  all_goals rfl

/-- the linearisation point: a commit step is the request's sequential meaning applied atomically to
    the store as it is at that moment -/
theorem commit_atomic {s s' : CState Val} {t : Tid} {x : TState Val} (h : Inv s)
    (hx : s.ts[t]? = some x) (hf : Footprint x.req) (st : Step s t .commit s') :
    s'.db = applyReq x.req s.db := by
  cases st
  case commit x' hx' hpc =>
    cases hx.symm.trans hx'
    funext k
    show (if k ∈ x.req.keys then x.req.f x.cache k else s.db k) = applyReq x.req s.db k
    unfold applyReq
    split
    · refine hf _ _ (fun k' hk' => ?_) k ‹_›
      obtain ⟨j, hj⟩ := List.mem_iff_getElem?.mp hk'
      exact h.cache_ok t x _ hx hpc j (lt_length_of_getElem? hj) k' hj
    · rfl

/-- the requests in the order of their commit steps -/
def commitOrder (s0 : CState Val) (tr : List (Tid × Label)) : List (Req Val) :=
  tr.filterMap (fun p => if p.2 = .commit then (s0.ts[p.1]?).map (·.req) else none)

theorem mem_commitOrder {s : CState Val} {tr : List (Tid × Label)} {r : Req Val}
    (h : r ∈ commitOrder s tr) : ∃ (t : Tid) (x : TState Val), s.ts[t]? = some x ∧ x.req = r := by
  obtain ⟨p, -, hp⟩ := List.mem_filterMap.mp h
  split at hp
  · exact ⟨p.1, Option.map_eq_some_iff.mp hp⟩
  · cases hp

theorem commitOrder_commit {s : CState Val} {t : Tid} {x : TState Val} (hx : s.ts[t]? = some x)
    (tr : List (Tid × Label)) : commitOrder s ((t, .commit) :: tr) = x.req :: commitOrder s tr :=
  List.filterMap_cons_some (by show (if Label.commit = .commit then _ else _) = _; rw [if_pos rfl, hx]; rfl)

theorem commitOrder_other {s : CState Val} {t : Tid} {l : Label} (hl : l ≠ .commit)
    (tr : List (Tid × Label)) : commitOrder s ((t, l) :: tr) = commitOrder s tr :=
  List.filterMap_cons_none (if_neg hl)

/-- only the requests that commit need to respect their footprint -/
theorem linearizable_from {s s' : CState Val} {tr : List (Tid × Label)} (he : Exec s tr s')
    (h : Inv s) (hfp : ∀ r ∈ commitOrder s tr, Footprint r) :
    s'.db = (commitOrder s tr).foldl (fun d r => applyReq r d) s.db := by
  induction he with
  | nil _ => rfl
  | @cons s s1 s2 t l tr st _ ih =>
    have hco : commitOrder s1 tr = commitOrder s tr := by
      unfold commitOrder; congr 1; funext p; rw [req_stable st]
    by_cases hl : l = .commit
    · subst hl
      obtain ⟨x, _, hx, -⟩ := st.thread
      rw [commitOrder_commit hx] at hfp ⊢
      rw [List.foldl_cons, ← commit_atomic h hx (hfp _ List.mem_cons_self) st, ← hco]
      exact ih (inv_step h st) fun r hr => hfp r (List.mem_cons_of_mem _ (hco ▸ hr))
    · rw [commitOrder_other hl] at hfp ⊢
      rw [← db_unchanged st hl, ← hco]
      exact ih (inv_step h st) (hco ▸ hfp)

/-- linearizability: after any execution from the initial state the store is what the sequential
    object produces for the requests that committed, in commit order -/
theorem linearizable (reqs : List (Req Val)) (db0 c0 : Key → Val) (hnd : ∀ r ∈ reqs, r.keys.Nodup)
    (hfp : ∀ r ∈ reqs, Footprint r) (tr : List (Tid × Label)) (s : CState Val)
    (he : Exec (initState reqs db0 c0) tr s) :
    s.db = (commitOrder (initState reqs db0 c0) tr).foldl (fun d r => applyReq r d) db0 :=
  linearizable_from he (inv_init reqs db0 c0 hnd) fun _ hr =>
    let ⟨_, _, hx, e⟩ := mem_commitOrder hr; e ▸ hfp _ (initState_get hx).2

/-- the phase of thread `t` in state `s` (0 for a thread that does not exist) -/
def rankOf (s : CState Val) (t : Tid) : Nat :=
  match s.ts[t]? with
  | some x => x.pc.rank
  | none => 0

theorem step_rank {s s' : CState Val} {t : Tid} {l : Label} (st : Step s t l s') :
    rankOf s t = l.before ∧ rankOf s' t = l.after ∧ ∀ t', t' ≠ t → rankOf s' t' = rankOf s t' := by
  obtain ⟨x, y, hx, hs, -, hp⟩ := st.thread
  unfold rankOf
  rw [hs, hx, get_setT hx, if_pos rfl]
  exact ⟨hp.rank.1, hp.rank.2, fun t' e => by rw [get_setT hx, if_neg e]⟩

theorem Label.before_le_after : ∀ l : Label, l.before ≤ l.after
  | .pre | .post | .commit | .finish => Nat.le_succ _
  | .lock _ | .read _ | .unlock _ => Nat.le_refl _

theorem Label.eq_pre_of_before : ∀ {l : Label}, l.before = 0 → l = .pre
  | .pre, _ => rfl

theorem step_rank_mono {s s' : CState Val} {t : Tid} {l : Label} (st : Step s t l s') (t' : Tid) :
    rankOf s t' ≤ rankOf s' t' := by
  obtain ⟨hb, ha, ho⟩ := step_rank st
  by_cases e : t' = t
  · subst e; rw [hb, ha]; exact l.before_le_after
  · rw [ho t' e]; exact Nat.le_refl _

/-- a step a thread takes later starts no earlier than where the thread is now -/
theorem exec_rank_le {s s' : CState Val} {tr : List (Tid × Label)} (he : Exec s tr s')
    (t : Tid) (l : Label) (i : Nat) (hi : tr[i]? = some (t, l)) : rankOf s t ≤ l.before := by
  induction he generalizing i with
  | nil _ => cases hi
  | cons st _ ih =>
    cases i with
    | zero => cases hi; exact Nat.le_of_eq (step_rank st).1
    | succ i => exact Nat.le_trans (step_rank_mono st t) (ih i hi)

/-- a thread's later step starts no earlier than where its earlier step ended -/
theorem exec_order {s s' : CState Val} {tr : List (Tid × Label)} (he : Exec s tr s')
    (t : Tid) (l l' : Label) (j i : Nat) (hji : j < i) (hj : tr[j]? = some (t, l))
    (hi : tr[i]? = some (t, l')) : l.after ≤ l'.before := by
  induction he generalizing i j with
  | nil _ => cases hi
  | cons st he' ih =>
    cases i with
    | zero => exact absurd hji (Nat.not_lt_zero _)
    | succ i =>
      cases j with
      | zero => cases hj; exact (step_rank st).2.1 ▸ exec_rank_le he' _ l' i hi
      | succ j => exact ih j i (Nat.lt_of_succ_lt_succ hji) hj hi

/-- a step beyond the idle phase is preceded by the thread's `pre` step -/
theorem exec_pre_before {s s' : CState Val} {tr : List (Tid × Label)} (he : Exec s tr s')
    (t : Tid) (l : Label) (i : Nat) (hi : tr[i]? = some (t, l)) (h0 : rankOf s t = 0)
    (hl : 1 ≤ l.before) : ∃ j, j < i ∧ tr[j]? = some (t, .pre) := by
  induction he generalizing i with
  | nil _ => cases hi
  | @cons s s1 s2 t0 l0 tr st _ ih =>
    obtain ⟨hb, -, ho⟩ := step_rank st
    cases i with
    | zero => cases hi; rw [← hb, h0] at hl; cases hl
    | succ i =>
      by_cases e : t = t0
      · -- the thread's first step starts in phase 0, so it is its `pre` step
        subst e
        exact ⟨0, Nat.succ_pos i, Label.eq_pre_of_before (hb.symm.trans h0) ▸ rfl⟩
      · obtain ⟨j, hj, hjt⟩ := ih i hi (by rw [ho t e]; exact h0)
        exact ⟨j + 1, Nat.succ_lt_succ hj, hjt⟩

/-- each thread commits at most once in any execution, and its commit lies after its `pre` step and
    before its `finish` step -/
theorem commit_between (reqs : List (Req Val)) (db0 c0 : Key → Val) (tr : List (Tid × Label))
    (s : CState Val) (he : Exec (initState reqs db0 c0) tr s) (t : Tid) (i : Nat)
    (hi : tr[i]? = some (t, .commit)) :
    (∃ j, j < i ∧ tr[j]? = some (t, .pre)) ∧ (∀ j, tr[j]? = some (t, .finish) → i < j) ∧
    (∀ j, tr[j]? = some (t, .commit) → j = i) := by
  have h0 : rankOf (initState reqs db0 c0) t = 0 := by
    unfold rankOf; split
    · rw [(initState_get ‹_›).1]; rfl
    · rfl
  refine ⟨exec_pre_before he t .commit i hi h0 (by decide), ?_, ?_⟩
  · intro j hj
    rcases Nat.lt_trichotomy j i with h | h | h
    · exact absurd (exec_order he t .finish .commit j i h hj hi) (by decide)
    · subst h; rw [hi] at hj; cases hj
    · exact h
  · intro j hj
    rcases Nat.lt_trichotomy j i with h | h | h
    · exact absurd (exec_order he t .commit .commit j i h hj hi) (by decide)
    · exact h
    · exact absurd (exec_order he t .commit .commit i j h hi hj) (by decide)

end Dirk.Conc
