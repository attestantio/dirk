/-
  Dirk.Lemmas.Crash — the invariant of the micro-step model with crashes: the instance component satisfies
  the invariants of the sequential model (a crash or a signature does not touch it), and whatever is in
  flight or released is in the instance's log (which only grows: `step_logs_prefix`).
-/
import Dirk.Model.Crash
import Dirk.Lemmas.Run

namespace Dirk

/-- whatever is approved and not yet signed (`inflight`) or signed (`released`) is in the log -/
def Tracked {α : Type} (inflight released log : List α) : Prop :=
  ∀ e, e ∈ inflight ∨ e ∈ released → e ∈ log

namespace Tracked
variable {α : Type} {I R L L' : List α}

/-- a request: the log grows and what it gained is in flight -/
theorem request (h : Tracked I R L) (hp : L <+: L') : Tracked (I ++ L'.drop L.length) R L' := by
  rintro e (he | he)
  · rcases List.mem_append.mp he with he | he
    · exact hp.subset (h e (.inl he))
    · exact List.mem_of_mem_drop he
  · exact hp.subset (h e (.inr he))

theorem sign [BEq α] {x : α} (h : Tracked I R L) (hx : x ∈ I) : Tracked (I.erase x) (R ++ [x]) L := by
  rintro e (he | he)
  · exact h e (.inl (List.mem_of_mem_erase he))
  · rcases List.mem_append.mp he with he | he
    · exact h e (.inr he)
    · exact List.mem_singleton.mp he ▸ h x (.inl hx)

theorem crash (h : Tracked I R L) : Tracked [] R L :=
  fun e he => he.elim nofun fun he => h e (.inr he)

end Tracked

structure CrashInv (m : MState) : Prop where
  att : AttInv m.inst
  prop : PropInv m.inst
  attIn : Tracked m.inflightAtt m.releasedAtt m.inst.attLog
  propIn : Tracked m.inflightProp m.releasedProp m.inst.propLog

theorem mstep_inv {m m' : MState} (h : CrashInv m) (st : MStep m m') : CrashInv m' := by
  cases st with
  | request op hsafe =>
    exact ⟨step_attInv_with_imports _ _ h.att hsafe, step_propInv_with_imports _ _ h.prop hsafe,
      h.attIn.request (step_logs_prefix m.inst op).1, h.propIn.request (step_logs_prefix m.inst op).2⟩
  | signAtt e he => exact ⟨h.att, h.prop, h.attIn.sign he, h.propIn⟩
  | signProp e he => exact ⟨h.att, h.prop, h.attIn, h.propIn.sign he⟩
  | crash => exact ⟨h.att, h.prop, h.attIn.crash, h.propIn.crash⟩

theorem mreach_inv {cfg : Config} {db0 : Db} {m : MState} (hr : MReach cfg db0 m) : CrashInv m := by
  induction hr with
  | init => exact ⟨init_attInv cfg db0, init_propInv cfg db0, fun _ he => he.elim nofun nofun,
      fun _ he => he.elim nofun nofun⟩
  | step _ st ih => exact mstep_inv ih st

end Dirk
