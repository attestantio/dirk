/-
  Dirk.Lemmas.Range — every record that decodes, in the current format or the legacy gob format, holds
  int64 values: both decoders end in a conversion from at most 64 bits.  This is why no theorem about the
  import needs a range hypothesis on the store.
-/
import Dirk.Lemmas.Codec

namespace Dirk

theorem Gob.be_lt : ∀ (bs : List UInt8) (acc : Nat), Gob.be acc bs < (acc + 1) * 256 ^ bs.length
  | [], acc => by simp [Gob.be]
  | b :: bs, acc =>
    have hb : b.toNat < 256 := b.toNat_lt
    calc Gob.be (acc * 256 + b.toNat) bs
        < (acc * 256 + b.toNat + 1) * 256 ^ bs.length := Gob.be_lt bs _
      _ ≤ ((acc + 1) * 256) * 256 ^ bs.length := Nat.mul_le_mul_right _ (by omega)
      _ = (acc + 1) * 256 ^ (bs.length + 1) := by rw [Nat.mul_assoc, Nat.pow_succ']

theorem Gob.be_lt_two64 {bs : List UInt8} (hl : bs.length ≤ 8) : Gob.be 0 bs < two64 :=
  calc Gob.be 0 bs < (0 + 1) * 256 ^ bs.length := Gob.be_lt bs 0
    _ ≤ 256 ^ 8 := by rw [Nat.zero_add, Nat.one_mul]; exact Nat.pow_le_pow_right (by omega) hl
    _ = two64 := by decide

theorem Gob.readUint_lt {bs rest : List UInt8} {u : Nat} : Gob.readUint bs = some (u, rest) → u < two64 := by
  fun_cases Gob.readUint bs with
  | case1 => nofun
  | case2 b r hb => intro h; cases h; exact Nat.lt_trans hb (by decide)
  | case3 => nofun
  | case4 b r hb n hn => intro h; cases h; exact Gob.be_lt_two64 (by rw [List.length_take]; omega)

theorem Gob.readUint_half {bs rest : List UInt8} {u : Nat} (h : Gob.readUint bs = some (u, rest)) : u / 2 ≤ maxI64 := by
  have := Gob.readUint_lt h
  unfold two64 at this; unfold maxI64; omega

theorem Gob.readInt_inI64 {bs rest : List UInt8} {v : Int} : Gob.readInt bs = some (v, rest) → InI64 v := by
  fun_cases Gob.readInt bs with
  | case1 => nofun
  | case2 u r hu hodd => intro h; cases h; exact inI64_neg_pred (Gob.readUint_half hu)
  | case3 u r hu hodd => intro h; cases h; exact inI64_of_le (Gob.readUint_half hu)

theorem Gob.readFields_inI64 : ∀ (fuel : Nat) (field : Int) (bs : List UInt8) (l : List (Int × Int)),
    Gob.readFields fuel field bs = some l → ∀ p ∈ l, InI64 p.2 := by
  intro fuel
  induction fuel with
  | zero => intro field bs l h; simp [Gob.readFields] at h
  | succ n ih =>
    intro field bs l h
    unfold Gob.readFields at h
    split at h
    · cases h
    · injection h with h; subst h; intro p hp; cases hp
    · split at h
      · cases h
      · rename_i v rest' hv
        obtain ⟨l', hr, rfl⟩ := Option.map_eq_some_iff.mp h
        exact List.forall_mem_cons.mpr ⟨Gob.readInt_inI64 hv, ih _ _ _ hr⟩

theorem Gob.decodeStruct_inI64 {d : List UInt8} {fs : List (Int × Int)} :
    Gob.decodeStruct d = some fs → ∀ p ∈ fs, InI64 p.2 := by
  fun_cases Gob.decodeStruct d with
  | case6 => exact Gob.readFields_inI64 _ _ _ _
  | _ => nofun

theorem Gob.field_inI64 {fs : List (Int × Int)} (h : ∀ p ∈ fs, InI64 p.2) (i : Int) : InI64 (Gob.field fs i) := by
  fun_cases Gob.field fs i with
  | case1 p hp => exact h p (List.mem_of_find?_eq_some hp)
  | case2 => decide

theorem decodeAtt_inI64 {d : Bytes} {st : AttState} : decodeAtt d = some st → InI64 st.src ∧ InI64 st.tgt := by
  fun_cases decodeAtt d with
  | case1 | case3 => nofun
  | case2 rest hl => intro h; cases h; exact ⟨i64_inI64 _ (unle64_lt _), i64_inI64 _ (unle64_lt _)⟩
  | case4 v rest hv =>
    intro h
    obtain ⟨p, hg, rfl⟩ := Option.map_eq_some_iff.mp h
    obtain ⟨fs, hs, rfl⟩ := Option.map_eq_some_iff.mp hg
    exact ⟨Gob.field_inI64 (Gob.decodeStruct_inI64 hs) 0, Gob.field_inI64 (Gob.decodeStruct_inI64 hs) 1⟩

theorem decodeProp_inI64 {d : Bytes} {v : Int} : decodeProp d = some v → InI64 v := by
  fun_cases decodeProp d with
  | case1 | case3 => nofun
  | case2 rest hl => intro h; cases h; exact i64_inI64 _ (unle64_lt _)
  | case4 x rest hx =>
    intro h
    obtain ⟨fs, hs, rfl⟩ := Option.map_eq_some_iff.mp h
    exact Gob.field_inI64 (Gob.decodeStruct_inI64 hs) 0

theorem fetchAtt_inI64 {db : Db} {k : Bytes} {st : AttState} :
    fetchAtt db k false = some st → InI64 st.src ∧ InI64 st.tgt := by
  fun_cases fetchAtt db k false with
  | case1 h => cases h
  | case2 => intro h; cases h; exact ⟨by decide, by decide⟩
  | case3 _ d _ => exact decodeAtt_inI64

theorem fetchProp_inI64 {db : Db} {k : Bytes} {v : Int} : fetchProp db k false = some v → InI64 v := by
  fun_cases fetchProp db k false with
  | case1 h => cases h
  | case2 => intro h; cases h; decide
  | case3 _ d _ => exact decodeProp_inI64
end Dirk
