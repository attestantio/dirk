/-
  Dirk.Lemmas.DkgProjection — C16 at history level: messages whose authenticated caller is not a
  configured peer can be deleted from ANY history of the message-level model (Dirk.Model.Dkg) without
  changing the final cluster state or the reply to any remaining event.  Dirk.Lemmas.LifeJudge is imported
  for the event type `Ev` (it lives there because `runBoth` is stated over it).  Core Lean only.
-/
import Dirk.Lemmas.LifeJudge

def Dirk.LifeJudge.Ev.caller : Dirk.LifeJudge.Ev → Option Nat
  | .prepare _ caller _ _ _ => some caller
  | .execute _ caller _ => some caller
  | .contribute _ caller _ _ _ => some caller
  | .commit _ caller _ => some caller
  | .abort _ caller _ => some caller
  | .tick _ => none

namespace Dirk.Dkg

open Dirk.LifeJudge

/-- one event on the model: new cluster and the reply (a clock tick replies ok) -/
def stepEv (c : Cluster) : Ev → Cluster × Reply
  | .prepare i caller acct t parts => onPrepare c i caller acct t parts
  | .execute i caller acct => onExecute c i caller acct
  | .contribute i caller acct valid vlen => onContribute c i caller acct valid vlen
  | .commit i caller acct => onCommit c i caller acct
  | .abort i caller acct => onAbort c i caller acct
  | .tick d => (tick c d, .ok)

def runEv : Cluster → List Ev → List (Ev × Reply) × Cluster
  | c, [] => ([], c)
  | c, e :: es => ((e, (stepEv c e).2) :: (runEv (stepEv c e).1 es).1, (runEv (stepEv c e).1 es).2)

/-- does the event come from a configured peer (ticks count as such)? depends on the peer table only -/
def fromPeer (peers : List Nat) (e : Ev) : Bool :=
  match e.caller with
  | none => true
  | some k => peers.contains k

theorem stepEv_peers (c : Cluster) (e : Ev) : (stepEv c e).1.peers = c.peers := by
  cases e with
  | prepare i caller acct t parts => exact (onPrepare_spec c i caller acct t parts).2.peers
  | execute i caller acct => exact (onExecute_spec c i caller acct).2.peers
  | contribute i caller acct valid vlen => exact (onContribute_spec c i caller acct valid vlen).2.peers
  | commit i caller acct => exact (onCommit_spec c i caller acct).2.peers
  | abort i caller acct => exact (onAbort_spec c i caller acct).2.peers
  | tick d => rfl

/-- an event from a non-peer is refused and changes nothing: every handler tests the sender first -/
theorem stepEv_non_peer (c : Cluster) (e : Ev) (h : fromPeer c.peers e = false) :
    stepEv c e = (c, .unknownSender) := by
  cases e <;>
    simp_all [fromPeer, Ev.caller, stepEv, senderId, onPrepare, onExecute, onContribute, onCommit, onAbort]

/-- **C16 at history level.**  Deleting every message whose caller is not a configured peer from any
    history changes neither the final cluster state nor the reply to any remaining event. -/
theorem runEv_projection (evs : List Ev) (c : Cluster) :
    (runEv c (evs.filter (fromPeer c.peers))).2 = (runEv c evs).2 ∧
    (runEv c (evs.filter (fromPeer c.peers))).1 = (runEv c evs).1.filter (fun p => fromPeer c.peers p.1) := by
  induction evs generalizing c with
  | nil => exact ⟨rfl, rfl⟩
  | cons e es ih =>
    cases hf : fromPeer c.peers e with
    | true =>
      have ih' := ih (stepEv c e).1
      rw [stepEv_peers] at ih'
      rw [List.filter_cons_of_pos hf]
      simp only [runEv]
      rw [List.filter_cons_of_pos (by exact hf)]
      exact ⟨ih'.1, by rw [ih'.2]⟩
    | false =>
      have ih' := ih c
      rw [List.filter_cons_of_neg (by simp only [hf, Bool.false_eq_true, not_false_eq_true])]
      simp only [runEv, stepEv_non_peer c e hf]
      rw [List.filter_cons_of_neg (by simp only [hf, Bool.false_eq_true, not_false_eq_true])]
      exact ih'

theorem runEv_non_peer_replies (evs : List Ev) (c : Cluster) :
    ∀ p ∈ (runEv c evs).1, fromPeer c.peers p.1 = false → p.2 = .unknownSender := by
  induction evs generalizing c with
  | nil => intro p hp; simp only [runEv, List.not_mem_nil] at hp
  | cons e es ih =>
    intro p hp hf
    simp only [runEv, List.mem_cons] at hp
    rcases hp with hp | hp
    · subst hp
      simp only at hf ⊢
      rw [stepEv_non_peer c e hf]
    · have := ih (stepEv c e).1 p hp
      rw [stepEv_peers] at this
      exact this hf

/-- a concrete cluster with peers `[1, 2]`; the history has a prepare from peer 2 (accepted), a commit
    from caller 7 (not a peer, `unknownSender`) and an abort from peer 2 (accepted): the filtered history
    has two events, the same replies for them and ends in the same cluster -/
example :
    let c0 : Cluster := { insts := [{ id := 1 }, { id := 2 }], peers := [1, 2], timeout := 10 }
    let evs : List Ev := [.prepare 1 2 "DW/a" 2 [1, 2], .commit 1 7 "DW/a", .abort 1 2 "DW/a"]
    (evs.filter (fromPeer c0.peers)).length = 2 ∧
      (runEv c0 evs).1.map (·.2) = [.ok, .unknownSender, .ok] ∧
      (runEv c0 (evs.filter (fromPeer c0.peers))).1.map (·.2) = [.ok, .ok] ∧
      (runEv c0 (evs.filter (fromPeer c0.peers))).2 = (runEv c0 evs).2 := by
  refine ⟨by decide, by decide, by decide, ?_⟩
  exact (runEv_projection _ _).1

end Dirk.Dkg
