/-
  Dirk.Lemmas.RegexAnchor — an unanchored search (`Re.search`, Go's `MatchString`) for `^r$` is a
  whole-text match of `r`, for every `r : Re`.

  Contents: a positional denotational semantics `Matches`, correctness of the derivative matcher
  (`matchFrom_iff`, through the simplifying constructors `mkCat` / `mkAlt`), and the anchoring argument.
-/
import Dirk.Model.Regex

namespace Dirk
namespace Re

/-- `Matches s r u v`: at a position whose "at start of text" flag is `s`, `r` consumes exactly `u`
    and leaves `v` as the rest of the text. -/
inductive Matches : Bool → Re → List Char → List Char → Prop
  | eps {s v} : Matches s eps [] v
  | chr {s ci p c v} : chrMatch ci p c = true → Matches s (chr ci p) [c] v
  | any {s c v} : c ≠ '\n' → Matches s any [c] v
  | cls {s ci neg rs c v} : clsMatch ci neg rs c = true → Matches s (cls ci neg rs) [c] v
  | bol {v} : Matches true bol [] v
  | eol {s} : Matches s eol [] []
  | cat {s a b u1 u2 v} : Matches s a u1 (u2 ++ v) → Matches (s && u1.isEmpty) b u2 v →
      Matches s (cat a b) (u1 ++ u2) v
  | altL {s a b u v} : Matches s a u v → Matches s (alt a b) u v
  | altR {s a b u v} : Matches s b u v → Matches s (alt a b) u v
  | starNil {s a v} : Matches s (star a) [] v
  | starCons {s a u1 u2 v} : Matches s a u1 (u2 ++ v) → Matches (s && u1.isEmpty) (star a) u2 v →
      Matches s (star a) (u1 ++ u2) v

theorem matches_none {s u v} : ¬ Matches s none u v := by
  intro h; cases h

theorem matches_eps {s u v} : Matches s eps u v ↔ u = [] := by
  constructor
  · intro h; cases h; rfl
  · intro h; subst h; exact .eps

theorem matches_chr {s ci p u v} :
    Matches s (chr ci p) u v ↔ ∃ c, u = [c] ∧ chrMatch ci p c = true := by
  constructor
  · intro h; cases h with | chr h => exact ⟨_, rfl, h⟩
  · rintro ⟨c, rfl, h⟩; exact .chr h

theorem matches_any {s u v} : Matches s any u v ↔ ∃ c, u = [c] ∧ c ≠ '\n' := by
  constructor
  · intro h; cases h with | any h => exact ⟨_, rfl, h⟩
  · rintro ⟨c, rfl, h⟩; exact .any h

theorem matches_cls {s ci neg rs u v} :
    Matches s (cls ci neg rs) u v ↔ ∃ c, u = [c] ∧ clsMatch ci neg rs c = true := by
  constructor
  · intro h; cases h with | cls h => exact ⟨_, rfl, h⟩
  · rintro ⟨c, rfl, h⟩; exact .cls h

theorem matches_bol {s u v} : Matches s bol u v ↔ s = true ∧ u = [] := by
  constructor
  · intro h; cases h; exact ⟨rfl, rfl⟩
  · rintro ⟨rfl, rfl⟩; exact .bol

theorem matches_eol {s u v} : Matches s eol u v ↔ u = [] ∧ v = [] := by
  constructor
  · intro h; cases h; exact ⟨rfl, rfl⟩
  · rintro ⟨rfl, rfl⟩; exact .eol

theorem matches_cat {s a b u v} :
    Matches s (cat a b) u v ↔
      ∃ u1 u2, u = u1 ++ u2 ∧ Matches s a u1 (u2 ++ v) ∧ Matches (s && u1.isEmpty) b u2 v := by
  constructor
  · intro h; cases h with | cat h1 h2 => exact ⟨_, _, rfl, h1, h2⟩
  · rintro ⟨u1, u2, rfl, h1, h2⟩; exact .cat h1 h2

theorem matches_alt {s a b u v} :
    Matches s (alt a b) u v ↔ Matches s a u v ∨ Matches s b u v := by
  constructor
  · intro h
    cases h with
    | altL h => exact .inl h
    | altR h => exact .inr h
  · rintro (h | h)
    · exact .altL h
    · exact .altR h

theorem matches_star {s a u v} :
    Matches s (star a) u v ↔
      u = [] ∨ ∃ u1 u2, u = u1 ++ u2 ∧ Matches s a u1 (u2 ++ v) ∧
        Matches (s && u1.isEmpty) (star a) u2 v := by
  constructor
  · intro h
    cases h with
    | starNil => exact .inl rfl
    | starCons h1 h2 => exact .inr ⟨_, _, rfl, h1, h2⟩
  · rintro (rfl | ⟨u1, u2, rfl, h1, h2⟩)
    · exact .starNil
    · exact .starCons h1 h2

/-- A non-empty star match starts with a non-empty iteration. -/
theorem matches_star_cons_aux {s r w v} (h : Matches s r w v) :
    ∀ a c u, r = star a → w = c :: u →
      ∃ u1 u2, u = u1 ++ u2 ∧ Matches s a (c :: u1) (u2 ++ v) ∧ Matches false (star a) u2 v := by
  induction h with
  | starNil => intro a c u _ hw; cases hw
  | @starCons s a' u1 u2 v h1 h2 _ ih2 =>
    intro a c u hr hw
    cases hr
    cases u1 with
    | nil =>
      simp only [List.isEmpty_nil, Bool.and_true] at ih2
      exact ih2 _ c u rfl hw
    | cons d u1' =>
      cases hw
      simp only [List.isEmpty_cons, Bool.and_false] at h2
      exact ⟨u1', u2, rfl, h1, h2⟩
  | _ => intro a c u hr; cases hr

theorem matches_star_cons {s a c u v} :
    Matches s (star a) (c :: u) v ↔
      ∃ u1 u2, u = u1 ++ u2 ∧ Matches s a (c :: u1) (u2 ++ v) ∧ Matches false (star a) u2 v := by
  constructor
  · intro h; exact matches_star_cons_aux h a c u rfl rfl
  · rintro ⟨u1, u2, rfl, h1, h2⟩
    exact .starCons (u1 := c :: u1) h1 (by simpa only [List.isEmpty_cons, Bool.and_false] using h2)

theorem matches_cat_cons {s a b c u v} :
    Matches s (cat a b) (c :: u) v ↔
      (Matches s a [] (c :: (u ++ v)) ∧ Matches s b (c :: u) v) ∨
      ∃ u1 u2, u = u1 ++ u2 ∧ Matches s a (c :: u1) (u2 ++ v) ∧ Matches false b u2 v := by
  rw [matches_cat]
  constructor
  · rintro ⟨w1, w2, hw, h1, h2⟩
    cases w1 with
    | nil =>
      cases hw
      exact .inl ⟨h1, by simpa only [List.isEmpty_nil, Bool.and_true] using h2⟩
    | cons d w1' =>
      cases hw
      exact .inr ⟨w1', w2, rfl, h1, by simpa only [List.isEmpty_cons, Bool.and_false] using h2⟩
  · rintro (⟨h1, h2⟩ | ⟨u1, u2, rfl, h1, h2⟩)
    · exact ⟨[], c :: u, rfl, h1, by simpa only [List.isEmpty_nil, Bool.and_true] using h2⟩
    · exact ⟨c :: u1, u2, rfl, h1, by simpa only [List.isEmpty_cons, Bool.and_false] using h2⟩

theorem matches_cat_nil {s a b v} : Matches s (cat a b) [] v ↔ Matches s a [] v ∧ Matches s b [] v := by
  rw [matches_cat]
  constructor
  · rintro ⟨u1, u2, h, h1, h2⟩
    obtain ⟨rfl, rfl⟩ := List.append_eq_nil_iff.1 h.symm
    exact ⟨h1, by simpa only [List.isEmpty_nil, Bool.and_true] using h2⟩
  · rintro ⟨h1, h2⟩
    exact ⟨[], [], rfl, h1, by simpa only [List.isEmpty_nil, Bool.and_true] using h2⟩

/-- A left factor that consumes nothing (`eps`, an assertion, `cat eps bol`) is a condition `p` on the position;
    `matches_cat_right_nil` is the same for a right factor. -/
theorem matches_cat_left_nil {s a b u v} {p : Prop} (ha : ∀ u' v', Matches s a u' v' ↔ p ∧ u' = []) :
    Matches s (cat a b) u v ↔ p ∧ Matches s b u v := by
  rw [matches_cat]
  constructor
  · rintro ⟨u1, u2, rfl, h1, h2⟩
    obtain ⟨hp, rfl⟩ := (ha _ _).1 h1
    exact ⟨hp, by simpa only [List.isEmpty_nil, Bool.and_true, List.nil_append] using h2⟩
  · rintro ⟨hp, h⟩
    exact ⟨[], u, rfl, (ha _ _).2 ⟨hp, rfl⟩, by simpa only [List.isEmpty_nil, Bool.and_true] using h⟩

theorem matches_cat_right_nil {s a b u v} {p : List Char → Prop}
    (hb : ∀ s' u' v', Matches s' b u' v' ↔ p v' ∧ u' = []) :
    Matches s (cat a b) u v ↔ p v ∧ Matches s a u v := by
  rw [matches_cat]
  constructor
  · rintro ⟨u1, u2, rfl, h1, h2⟩
    obtain ⟨hp, rfl⟩ := (hb _ _ _).1 h2
    exact ⟨hp, by simpa only [List.nil_append, List.append_nil] using h1⟩
  · rintro ⟨hp, h⟩
    exact ⟨u, [], (List.append_nil u).symm, by simpa only [List.nil_append] using h, (hb _ _ _).2 ⟨hp, rfl⟩⟩

theorem matches_eps_cat {s b u v} : Matches s (cat eps b) u v ↔ Matches s b u v :=
  (matches_cat_left_nil (p := True) fun _ _ => matches_eps.trans (and_iff_right trivial).symm).trans
    (and_iff_right trivial)

theorem matches_cat_eps {s a u v} : Matches s (cat a eps) u v ↔ Matches s a u v :=
  (matches_cat_right_nil (p := fun _ => True) fun _ _ _ => matches_eps.trans (and_iff_right trivial).symm).trans
    (and_iff_right trivial)

theorem matches_bol_cat {s b u v} : Matches s (cat bol b) u v ↔ s = true ∧ Matches s b u v :=
  matches_cat_left_nil fun _ _ => matches_bol

theorem matches_cat_eol {s a u v} : Matches s (cat a eol) u v ↔ v = [] ∧ Matches s a u v :=
  matches_cat_right_nil (p := fun v => v = []) fun _ _ _ => matches_eol.trans and_comm

theorem matches_mkCat {s a b u v} : Matches s (mkCat a b) u v ↔ Matches s (cat a b) u v := by
  fun_cases mkCat a b
  · simp only [matches_cat, matches_none, false_and, and_false, exists_false]
  · simp only [matches_cat, matches_none, and_false, exists_false]
  · exact matches_eps_cat.symm
  · exact matches_cat_eps.symm
  · exact Iff.rfl

theorem matches_mkAlt {s a b u v} : Matches s (mkAlt a b) u v ↔ Matches s (alt a b) u v := by
  fun_cases mkAlt a b
  · simp only [matches_alt, matches_none, false_or]
  · simp only [matches_alt, matches_none, or_false]
  · rw [matches_alt, or_self]
  · exact Iff.rfl

theorem nullable_iff {s r v} : nullable s v.isEmpty r = true ↔ Matches s r [] v := by
  induction r with
  | none => simp only [nullable, matches_none, Bool.false_eq_true]
  | eps => simp only [nullable, matches_eps]
  | chr ci c => simp only [nullable, matches_chr, Bool.false_eq_true, List.nil_eq, reduceCtorEq, false_and, exists_false]
  | any => simp only [nullable, matches_any, Bool.false_eq_true, List.nil_eq, reduceCtorEq, false_and, exists_false]
  | cls ci neg rs => simp only [nullable, matches_cls, Bool.false_eq_true, List.nil_eq, reduceCtorEq, false_and, exists_false]
  | bol => simp only [nullable, matches_bol, and_true]
  | eol => simp only [nullable, matches_eol, true_and, List.isEmpty_iff]
  | cat a b iha ihb => simp only [nullable, Bool.and_eq_true, matches_cat_nil, iha, ihb]
  | alt a b iha ihb => simp only [nullable, Bool.or_eq_true, matches_alt, iha, ihb]
  | star a _ => simp only [nullable, true_iff]; exact .starNil

theorem nullable_false_iff {s r c v} : nullable s false r = true ↔ Matches s r [] (c :: v) :=
  @nullable_iff s r (c :: v)

/-- the single-character patterns: `deriv` answers `eps` or `none` on a test of the character -/
theorem matches_ite_eps {s u v} {p : Prop} [Decidable p] :
    Matches s (if p then eps else none) u v ↔ p ∧ u = [] := by
  split
  · next h => simp only [matches_eps, h, true_and]
  · next h => simp only [matches_none, h, false_and]

theorem exists_cons_eq_singleton {P : Char → Prop} {c : Char} {u : List Char} :
    (∃ d, c :: u = [d] ∧ P d) ↔ P c ∧ u = [] :=
  ⟨fun ⟨_, h, hp⟩ => by cases h; exact ⟨hp, rfl⟩, fun ⟨hp, hu⟩ => ⟨c, by rw [hu], hp⟩⟩

theorem deriv_iff {s c r u v} : Matches false (deriv s c r) u v ↔ Matches s r (c :: u) v := by
  induction r generalizing u v with
  | none => simp only [deriv, matches_none]
  | eps => simp only [deriv, matches_none, matches_eps, reduceCtorEq]
  | chr ci p =>
    rw [deriv, matches_ite_eps, matches_chr, exists_cons_eq_singleton]
  | any =>
    rw [deriv, ← ite_not, matches_ite_eps, matches_any, exists_cons_eq_singleton]
  | cls ci neg rs =>
    rw [deriv, matches_ite_eps, matches_cls, exists_cons_eq_singleton]
  | bol => simp only [deriv, matches_none, matches_bol, reduceCtorEq, and_false]
  | eol => simp only [deriv, matches_none, matches_eol, reduceCtorEq, false_and]
  | cat a b iha ihb =>
    have hL : Matches false (mkCat (deriv s c a) b) u v ↔
        ∃ u1 u2, u = u1 ++ u2 ∧ Matches s a (c :: u1) (u2 ++ v) ∧ Matches false b u2 v := by
      simp only [matches_mkCat, matches_cat, iha, Bool.false_and]
    simp only [deriv]
    rw [matches_cat_cons, ← nullable_false_iff]
    split
    · next hn => rw [matches_mkAlt, matches_alt, hL, ihb, or_comm, and_iff_right hn]
    · next hn => rw [hL, or_iff_right (fun h => hn h.1)]
  | alt a b iha ihb =>
    simp only [deriv]
    rw [matches_mkAlt, matches_alt, matches_alt, iha, ihb]
  | star a iha =>
    simp only [deriv, matches_mkCat, matches_cat, matches_star_cons, iha, Bool.false_and]

/-- The derivative matcher decides the denotational semantics. -/
theorem matchFrom_iff {s r cs} : matchFrom s r cs = true ↔ Matches s r cs [] := by
  induction cs generalizing s r with
  | nil => exact @nullable_iff s r []
  | cons c cs ih => rw [matchFrom, ih, deriv_iff]

theorem matches_anyAll_star (u : List Char) : ∀ {s v}, Matches s (star anyAll) u v := by
  induction u with
  | nil => intro s v; exact .starNil
  | cons c u ih =>
    intro s v
    have h1 : Matches s anyAll [c] (u ++ v) := .cls (by simp [clsMatch, inRanges])
    exact .starCons (u1 := [c]) h1 ih

/-- What `search` means denotationally: `r` matches some infix of the text, and it is at the start
    of the text iff the skipped prefix is empty. -/
theorem search_iff {r : Re} {w : String} :
    search r w = true ↔
      ∃ u1 u2 u3, w.toList = u1 ++ (u2 ++ u3) ∧ Matches u1.isEmpty r u2 u3 := by
  unfold search
  rw [matchFrom_iff, matches_cat]
  constructor
  · rintro ⟨u1, u23, hw, _, h⟩
    obtain ⟨u2, u3, rfl, h2, _⟩ := matches_cat.1 h
    refine ⟨u1, u2, u3, hw, ?_⟩
    simpa only [Bool.true_and, List.append_nil] using h2
  · rintro ⟨u1, u2, u3, hw, h⟩
    refine ⟨u1, u2 ++ u3, hw, matches_anyAll_star _, ?_⟩
    refine matches_cat.2 ⟨u2, u3, rfl, ?_, matches_anyAll_star _⟩
    simpa only [Bool.true_and, List.append_nil] using h

theorem fullMatch_iff {r : Re} {w : String} : fullMatch r w = true ↔ Matches true r w.toList [] :=
  matchFrom_iff

/-- **Widening.**  If `q` accepts as a whole text whatever `r` accepts as a whole text, the search for `q`
    finds every whole-text match of `r`. -/
theorem search_of_fullMatch {q r : Re} (h : ∀ u, Matches true r u [] → Matches true q u []) {w : String}
    (hw : fullMatch r w = true) : search q w = true :=
  search_iff.2 ⟨[], w.toList, [], (List.append_nil _).symm, h _ (fullMatch_iff.1 hw)⟩

/-- **Anchoring.**  If `q` matches only at the start of the text and up to its end, and there as `r` does,
    the unanchored search for `q` is the whole-text match of `r`. -/
theorem search_eq_fullMatch {q r : Re}
    (h : ∀ s u v, Matches s q u v ↔ s = true ∧ v = [] ∧ Matches s r u v) (w : String) :
    search q w = fullMatch r w := by
  rw [Bool.eq_iff_iff]
  refine ⟨fun hs => ?_, search_of_fullMatch fun u hu => (h _ _ _).2 ⟨rfl, rfl, hu⟩⟩
  obtain ⟨u1, u2, u3, hw, hm⟩ := search_iff.1 hs
  obtain ⟨h1, rfl, h3⟩ := (h _ _ _).1 hm
  obtain rfl := List.isEmpty_iff.1 h1
  rw [fullMatch_iff, hw]
  simpa only [List.nil_append, List.append_nil, List.isEmpty_nil] using h3

/-- Main theorem: an unanchored search for `^r$` is a whole-text match of `r`. -/
theorem search_anchored (r : Re) (w : String) :
    Re.search (Re.cat Re.bol (Re.cat r Re.eol)) w = Re.fullMatch r w :=
  search_eq_fullMatch (fun _ _ _ => by rw [matches_bol_cat, matches_cat_eol]) w

/-- The search is a genuine whole-name test on a non-trivial pattern: `^(a|b)c$` finds `"bc"`, and the
    statement also covers the rejecting direction (`"xbc"` contains `bc` but is not found). -/
example : Re.search (Re.cat Re.bol (Re.cat (Re.cat (Re.alt (Re.chr false 'a') (Re.chr false 'b'))
    (Re.chr false 'c')) Re.eol)) "bc" = true := by
  rw [search_anchored]; rfl

/-! ## The shape produced by `ReParse.parse`

`ReParse.parse "(?i)^(?:ab|c)$"` evaluates to
`some (cat (cat (cat eps bol) r) eol)` with
`r = alt (cat (cat eps (chr true 'a')) (chr true 'b')) (cat eps (chr true 'c'))`, and
`ReParse.parse "(?i)ab|c"` evaluates to `some r` for the same `r`: `pCat` folds the atoms to the left
starting from `eps` (it uses `cat`, not `mkCat`). -/

/-- The AST `ReParse.parse` builds for `^(?:…)$` around the AST `r` of the group body. -/
def anch (r : Re) : Re := cat (cat (cat eps bol) r) eol

/-- `bol` as the parser puts it in front of a branch -/
theorem matches_eps_bol_cat {s b u v} :
    Matches s (cat (cat eps bol) b) u v ↔ s = true ∧ Matches s b u v :=
  matches_cat_left_nil fun _ _ => matches_eps_cat.trans matches_bol

/-- `search_anchored` for exactly the AST the parser produces for an anchored pattern. -/
theorem search_anchored_parsed_shape (r : Re) (w : String) : Re.search (anch r) w = Re.fullMatch r w :=
  search_eq_fullMatch (fun _ _ _ => by rw [anch, matches_cat_eol, matches_eps_bol_cat, and_left_comm]) w

example : Re.search (anch (Re.alt (Re.cat (Re.cat Re.eps (Re.chr true 'a')) (Re.chr true 'b'))
    (Re.cat Re.eps (Re.chr true 'c')))) "Ab" = true := by
  rw [search_anchored_parsed_shape]; rfl

example : (Re.search (anch (Re.cat (Re.chr false 'w') (Re.star Re.any))) "w1" &&
    Re.search (anch (Re.alt (Re.chr false 's') (Re.chr false 'u'))) "s") = true := by
  rw [search_anchored_parsed_shape, search_anchored_parsed_shape]; rfl

end Re
end Dirk

#print axioms Dirk.Re.matchFrom_iff
#print axioms Dirk.Re.search_anchored
#print axioms Dirk.Re.search_anchored_parsed_shape
