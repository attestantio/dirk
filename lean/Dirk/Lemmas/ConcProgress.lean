/-
  Dirk.Lemmas.ConcProgress — liveness of the lock protocol modelled in Dirk.Model.Conc:
  deadlock-freedom (`progress`), termination (`measure_step`, `exec_length`), completion
  (`completes_of_inv`), and a witness that without the locker-wide critical section the protocol can
  deadlock (`needs_global`).  Core Lean only.
-/
import Dirk.Lemmas.ConcSafety
namespace Dirk.Conc
variable {Val : Type}

/-- a thread that has left its locking phase never waits -/
theorem step_of_rank_ge_two {s : CState Val} (h : Inv s) {t : Tid} {x : TState Val} (hx : s.ts[t]? = some x)
    (hr : 2 ≤ x.pc.rank) (hd : x.pc ≠ .done) : ∃ l s', Step s t l s' := by
  cases hpc : x.pc with
  | reading r =>
    rcases Nat.lt_or_eq_of_le (h.bound hx hpc : r ≤ _) with hlt | rfl
    · exact ⟨_, _, .read hx hpc (List.getElem?_eq_getElem hlt)⟩
    · exact ⟨_, _, .commit hx hpc⟩
  | unlocking u =>
    cases u with
    | zero => exact ⟨_, _, .finish hx hpc⟩
    | succ u => exact ⟨_, _, .unlock hx hpc (List.getElem?_eq_getElem (h.bound hx hpc))⟩
  | done => exact absurd hpc hd
  | idle => rw [hpc] at hr; exact absurd hr (Nat.not_succ_le_zero 1)
  | locking _ => rw [hpc] at hr; exact absurd hr (Nat.not_succ_le_self 1)

/-- **progress**: in every state satisfying the invariant, unless every request is done, some thread
    can take a step (no combination of requests leaves requests waiting on each other forever): an idle thread
    waits only for the holder of the mutex, the holder of the mutex only for the holder of its next key, and that
    thread is past its locking phase and waits for nobody -/
theorem progress {s : CState Val} (h : Inv s) (hnd : ¬ AllDone s) : ∃ t l s', Step s t l s' := by
  cases hg : s.global with
  | some t =>
    obtain ⟨x, i, hx, hpc⟩ := (h.global_iff t).mp hg
    rcases Nat.lt_or_eq_of_le (h.bound hx hpc : i ≤ _) with hlt | rfl
    · have hk : x.req.keys[i]? = some (x.req.keys[i]) := List.getElem?_eq_getElem hlt
      cases hh : s.held (x.req.keys[i]) with
      | none => exact ⟨t, _, _, .lock hx hpc hk hh⟩
      | some t' =>
        obtain ⟨x', hx', ho⟩ := (h.held_iff _ t').mp hh
        refine ⟨t', step_of_rank_ge_two h hx' ?_ fun hd => owns_done hd _ ho⟩
        cases hpc' : x'.pc with
        | idle => exact absurd ho (owns_idle hpc' _)
        | locking j =>
          -- it would be `t` itself, which has only its first `i` keys
          cases h.global.excl hx hx' (by rw [hpc]; rfl) (by rw [hpc']; rfl)
          cases hx.symm.trans hx'
          exact absurd ((owns_locking hpc _).mp ho) (not_mem_take_of_nodup (h.nodup hx) hk)
        | reading _ => exact Nat.le_refl 2
        | unlocking _ => exact Nat.le_succ 2
        | done => exact absurd ho (owns_done hpc' _)
    · exact ⟨t, _, _, .post hx hpc⟩
  | none =>
    -- nobody is locking: a thread that is not done is idle and may start, or is past its locking phase
    obtain ⟨x, hx⟩ := Classical.not_forall.mp hnd
    obtain ⟨hm, hd⟩ := not_imp.mp hx
    obtain ⟨t, hx⟩ := List.mem_iff_getElem?.mp hm
    cases hpc : x.pc with
    | idle => exact ⟨t, _, _, .pre hx hpc hg⟩
    | locking i => cases hg.symm.trans ((h.global_iff t).mpr ⟨x, i, hx, hpc⟩)
    | done => exact absurd hpc hd
    | reading _ => exact ⟨t, step_of_rank_ge_two h hx (hpc ▸ Nat.le_refl 2) hd⟩
    | unlocking _ => exact ⟨t, step_of_rank_ge_two h hx (hpc ▸ Nat.le_succ 2) hd⟩

/-- the steps of the thread program still to take: `pre`, n locks, `post`, n reads, `commit`, n unlocks and
    `finish` are 3n + 4 -/
def remaining (x : TState Val) : Nat :=
  match x.pc with
  | .idle => 3 * x.req.keys.length + 4
  | .locking i => 3 * x.req.keys.length + 3 - i
  | .reading r => 2 * x.req.keys.length + 2 - r
  | .unlocking u => u + 1
  | .done => 0

def measure (s : CState Val) : Nat := (s.ts.map remaining).sum

theorem sum_map_set {α : Type} (f : α → Nat) : ∀ (l : List α) (t : Nat) (x y : α), l[t]? = some x →
    ((l.set t y).map f).sum + f x = (l.map f).sum + f y
  | a :: l, 0, x, y, h => by
    cases h
    rw [List.set_cons_zero, List.map_cons, List.map_cons, List.sum_cons, List.sum_cons,
      Nat.add_right_comm, Nat.add_comm (f y), Nat.add_right_comm]
  | a :: l, t + 1, x, y, h => by
    rw [List.set_cons_succ, List.map_cons, List.map_cons, List.sum_cons, List.sum_cons,
      Nat.add_assoc, sum_map_set f l t x y h, Nat.add_assoc]

/- The arithmetic of `remaining` along the thread program: within a phase the counter `i < n ≤ a` goes up by
   one under `a - ·`; at the end of a phase all `n` have been taken off `(c + 1) * n + b`.  (`omega` does each
   case as well but is slow to check.) -/

theorem sub_eq_sub_succ_add_one {a i : Nat} (h : i < a) : a - i = a - (i + 1) + 1 := by
  rw [← Nat.sub_sub, Nat.sub_add_cancel (Nat.sub_pos_of_lt h)]

theorem succ_mul_add_sub (c n b : Nat) : (c + 1) * n + b - n = c * n + b := by
  rw [Nat.succ_mul, Nat.add_right_comm, Nat.add_sub_cancel]

theorem lt_succ_mul_add {i n : Nat} (h : i < n) (c b : Nat) : i < (c + 1) * n + b :=
  Nat.lt_of_lt_of_le h (Nat.le_trans (Nat.le_mul_of_pos_left n (Nat.succ_pos c)) (Nat.le_add_right _ _))

/-- each step of the thread program uses up one unit of `remaining` -/
theorem PCStep.remaining_eq_succ {x y : TState Val} {l : Label} (hreq : y.req = x.req)
    (h : PCStep x.req.keys.length l x.pc y.pc) : remaining x = remaining y + 1 := by
  unfold remaining
  rw [hreq]
  generalize x.pc = p, y.pc = q at h
  cases h
  case lock hi => exact sub_eq_sub_succ_add_one (lt_succ_mul_add hi 2 3)
  case read hi => exact sub_eq_sub_succ_add_one (lt_succ_mul_add hi 1 2)
  case post => exact succ_mul_add_sub 2 _ 3
  case commit => exact (succ_mul_add_sub 1 _ 2).trans (congrArg (· + 2) (Nat.one_mul _))
  all_goals rfl

/-- **termination**: every step uses up one unit of the measure, so every execution is finite
    and, by `progress`, every maximal execution ends with all requests done -/
theorem measure_step {s s' : CState Val} {t : Tid} {l : Label} (st : Step s t l s') :
    measure s = measure s' + 1 := by
  obtain ⟨x, y, hx, hs, hreq, hp⟩ := st.thread
  have h := sum_map_set remaining s.ts t x y hx
  rw [hp.remaining_eq_succ hreq, ← Nat.add_assoc, Nat.add_right_comm] at h
  unfold measure
  rw [hs]
  exact (Nat.add_right_cancel h).symm

theorem exec_length {s s' : CState Val} {tr : List (Tid × Label)} (he : Exec s tr s') :
    tr.length + measure s' = measure s := by
  induction he with
  | nil _ => exact Nat.zero_add _
  | cons st _ ih => rw [measure_step st, ← ih, List.length_cons]; exact Nat.add_right_comm _ _ _

/-- **completion**: from any state satisfying the invariant there is an execution reaching AllDone -/
theorem completes_of_inv (s : CState Val) (h : Inv s) : ∃ tr s', Exec s tr s' ∧ AllDone s' := by
  by_cases hd : AllDone s
  · exact ⟨[], s, .nil s, hd⟩
  · obtain ⟨t, l, s1, st⟩ := progress h hd
    obtain ⟨tr, s2, he, hd2⟩ := completes_of_inv s1 (inv_step h st)
    exact ⟨(t, l) :: tr, s2, .cons st he, hd2⟩
termination_by measure s
decreasing_by rw [measure_step st]; exact Nat.lt_succ_self _

/-- executions of `StepNoGlobal` (Dirk.Model.Conc), as `Exec` is of `Step` -/
inductive ExecNoGlobal : CState Val → List (Tid × Label) → CState Val → Prop where
  | nil (s : CState Val) : ExecNoGlobal s [] s
  | cons {s s' s'' : CState Val} {t : Tid} {l : Label} {tr : List (Tid × Label)} :
      StepNoGlobal s t l s' → ExecNoGlobal s' tr s'' → ExecNoGlobal s ((t, l) :: tr) s''

/-- the deadlocked state: request 0 (keys [0,1]) holds key 0, request 1 (keys [1,0]) holds key 1 -/
def deadState : CState Unit :=
  { ts := [⟨⟨[0, 1], id⟩, .locking 1, fun _ => ()⟩, ⟨⟨[1, 0], id⟩, .locking 1, fun _ => ()⟩],
    global := none,
    held := heldSet (heldSet (fun _ => none) 0 (some 0)) 1 (some 1),
    db := fun _ => () }

theorem deadState_ts {t : Tid} {x : TState Unit} (h : deadState.ts[t]? = some x) :
    (x.req.keys = [0, 1] ∨ x.req.keys = [1, 0]) ∧ x.pc = .locking 1 :=
  match t, h with
  | 0, h => by cases h; exact ⟨.inl rfl, rfl⟩
  | 1, h => by cases h; exact ⟨.inr rfl, rfl⟩
  | _ + 2, h => nomatch h

/-- two requests with keys [0,1] and [1,0]: under `StepNoGlobal` (no PreLock/PostLock mutex) there is
    a reachable state in which neither is done and no step is possible -/
theorem needs_global : ∃ (s : CState Unit),
    (∃ tr : List (Tid × Label),
      ExecNoGlobal (initState [⟨[0, 1], id⟩, ⟨[1, 0], id⟩] (fun _ => ()) (fun _ => ())) tr s) ∧
    ¬ AllDone s ∧ ¬ ∃ t l s', StepNoGlobal s t l s' := by
  refine ⟨deadState, ⟨[(0, .pre), (0, .lock 0), (1, .pre), (1, .lock 1)], ?_⟩, ?_, ?_⟩
  · exact .cons (.pre (t := 0) rfl rfl) <| .cons (.lock (t := 0) (i := 0) rfl rfl rfl rfl) <|
      .cons (.pre (t := 1) rfl rfl) <| .cons (.lock (t := 1) (i := 0) rfl rfl rfl rfl) <| .nil _
  · exact fun h => nomatch h _ (List.Mem.head _)
  · -- both threads are at `locking 1` of two keys, and the second key of each is held by the other
    rintro ⟨t, l, s', st⟩
    cases st
    case pre x hx hpc => cases (deadState_ts hx).2.symm.trans hpc
    case lock x i k hx hpc hk hfree =>
      obtain ⟨hkeys, hpc'⟩ := deadState_ts hx
      cases hpc'.symm.trans hpc
      rcases hkeys with e | e <;> rw [e] at hk <;> cases hk <;> cases hfree
    case post x hx hpc =>
      obtain ⟨hkeys, hpc'⟩ := deadState_ts hx
      rcases hkeys with e | e <;> rw [e] at hpc <;> cases hpc'.symm.trans hpc

end Dirk.Conc
