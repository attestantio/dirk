/-
  Dirk.Lemmas.DkgLife — what each handler of the message-level model (Dirk.Model.Dkg) does to what can
  be observed of a cluster: per instance and account name the generation read as active (`sessionOf`)
  and whether the account is held (`holdsAccount`).  Prepare, contribute, commit and abort rewrite one
  such entry (`Writes`) exactly when they answer `ok`, an execute only adds contributions (`Quiet`); C13,
  C16, C17, the lifecycle judge (Dirk.Lemmas.LifeJudge) and the success of a fault-free generation
  (Dirk.Lemmas.DkgSuccess) are read off these.  At the end: what a clock tick does to a reading
  (`sessionOf_tick`) and the contribution check on a wrong vector length.  Core Lean only.
-/
import Dirk.Model.Dkg

namespace Dirk.Dkg

def Cluster.WF (c : Cluster) : Prop := (c.insts.map (·.id)).Nodup

/-- the generation instance `i` considers active for `acct` right now -/
def sessionOf (c : Cluster) (i : Nat) (acct : String) : Option Session :=
  match getInst c i with
  | none => none
  | some x => (active c x acct).1

def holdsAccount (c : Cluster) (i : Nat) (acct : String) : Bool :=
  match getInst c i with
  | none => false
  | some x => x.accounts.contains acct

theorem getInst_id {c : Cluster} {i : Nat} {x : DInst} (h : getInst c i = some x) : x.id = i := by
  unfold getInst at h
  have := List.find?_some h
  simpa using this

theorem getInst_setInst (c : Cluster) (x' : DInst) (k : Nat) :
    getInst (setInst c x') k =
      if k = x'.id then (getInst c k).map (fun _ => x') else getInst c k := by
  -- the map keeps every id, so it finds the image of what was found
  have hf : ((·.id == k) ∘ fun y : DInst => if y.id == x'.id then x' else y) = (·.id == k) := by
    funext y
    dsimp only [Function.comp]
    split <;> simp_all
  show (c.insts.map _).find? _ = _
  rw [List.find?_map, hf]
  unfold getInst
  cases h : c.insts.find? (·.id == k) with
  | none => simp
  | some y =>
    have hy : y.id = k := by simpa using List.find?_some h
    subst hy
    by_cases hk : y.id = x'.id <;> simp [hk]

theorem getInst_setInst_self {c : Cluster} {x x' : DInst} (h : getInst c x'.id = some x) :
    getInst (setInst c x') x'.id = some x' := by
  rw [getInst_setInst]; simp [h]

@[simp] theorem setInst_peers (c : Cluster) (x : DInst) : (setInst c x).peers = c.peers := rfl
@[simp] theorem setInst_timeout (c : Cluster) (x : DInst) : (setInst c x).timeout = c.timeout := rfl
@[simp] theorem setInst_now (c : Cluster) (x : DInst) : (setInst c x).now = c.now := rfl

theorem setInst_WF (c : Cluster) (x : DInst) (h : c.WF) : (setInst c x).WF := by
  unfold Cluster.WF at *
  have : (setInst c x).insts.map (·.id) = c.insts.map (·.id) := by
    simp only [setInst, List.map_map]
    exact List.map_congr_left fun y _ => by dsimp only [Function.comp]; split <;> simp_all
  rwa [this]

@[simp] theorem senderId_setInst (c : Cluster) (x : DInst) (k : Nat) : senderId (setInst c x) k = senderId c k := rfl

@[simp] theorem active_setInst (c : Cluster) (y x : DInst) (nm : String) : active (setInst c y) x nm = active c x nm := rfl

theorem lookup_cons_ite {α β : Type} [BEq α] [LawfulBEq α] [DecidableEq α] (l : List (α × β)) (k k' : α) (b : β) :
    ((k, b) :: l).lookup k' = if k' = k then some b else l.lookup k' := by
  rw [List.lookup_cons]
  by_cases h : k' = k
  · rw [if_pos h, beq_iff_eq.mpr h]
  · rw [if_neg h, beq_false_of_ne h]

theorem lookup_filter_ne {α β : Type} [BEq α] [LawfulBEq α] [DecidableEq α] (l : List (α × β)) (k k' : α) :
    (l.filter (fun e => e.1 != k)).lookup k' = if k' = k then none else l.lookup k' := by
  induction l with
  | nil => simp
  | cons p l ih =>
    obtain ⟨a, b⟩ := p
    rw [lookup_cons_ite]
    by_cases ha : a = k
    · rw [List.filter_cons_of_neg (by simp [ha]), ih, ha]
      split <;> rfl
    · rw [List.filter_cons_of_pos (by simp [ha]), lookup_cons_ite, ih]
      by_cases hk : k' = a
      · rw [if_pos hk, if_pos hk, if_neg (hk ▸ ha)]
      · rw [if_neg hk, if_neg hk]

theorem active_fst (c : Cluster) (x : DInst) (nm : String) :
    (active c x nm).1 =
      match x.sessions.lookup nm with
      | none => none
      | some s => if c.now - s.started > c.timeout then none else some s := by
  fun_cases active c x nm <;> simp [*]

/-- only the session list can change -/
theorem active_snd (c : Cluster) (x : DInst) (nm : String) :
    (active c x nm).2 = { x with sessions := (active c x nm).2.sessions } := by
  fun_cases active c x nm <;> rfl

theorem active_snd_id (c : Cluster) (x : DInst) (nm : String) : (active c x nm).2.id = x.id := by
  rw [active_snd]

theorem active_snd_accounts (c : Cluster) (x : DInst) (nm : String) : (active c x nm).2.accounts = x.accounts := by
  rw [active_snd]

theorem active_active (c : Cluster) (x : DInst) (acct nm : String) :
    (active c (active c x acct).2 nm).1 = (active c x nm).1 := by
  fun_cases active c x acct with
  | case1 _ => rfl
  | case2 s hs hexp =>
    rw [active_fst, active_fst c x nm]
    dsimp only
    rw [lookup_filter_ne]
    by_cases hn : nm = acct
    · rw [if_pos hn, hn, hs]
      exact (if_pos hexp).symm
    · rw [if_neg hn]
  | case3 _ _ _ => rfl

theorem active_putSession (c : Cluster) (x : DInst) (acct nm : String) (s : Session) :
    (active c (putSession x acct s) nm).1 =
      if nm = acct then (if c.now - s.started > c.timeout then none else some s)
      else (active c x nm).1 := by
  rw [active_fst, active_fst c x nm]
  simp only [putSession, lookup_cons_ite, lookup_filter_ne]
  by_cases hn : nm = acct <;> simp only [hn, if_true, if_false]

theorem active_dropSession (c : Cluster) (x : DInst) (acct nm : String) :
    (active c (dropSession x acct) nm).1 = if nm = acct then none else (active c x nm).1 := by
  rw [active_fst, active_fst c x nm]
  simp only [dropSession, lookup_filter_ne]
  by_cases hn : nm = acct <;> simp only [hn, if_true, if_false]

theorem active_accounts_irrel (c : Cluster) (x : DInst) (l : List String) (nm : String) :
    (active c { x with accounts := l } nm).1 = (active c x nm).1 := by
  rw [active_fst, active_fst c x nm]

@[simp] theorem putSession_id (x : DInst) (a : String) (s : Session) : (putSession x a s).id = x.id := rfl
@[simp] theorem putSession_accounts (x : DInst) (a : String) (s : Session) : (putSession x a s).accounts = x.accounts := rfl
@[simp] theorem dropSession_id (x : DInst) (a : String) : (dropSession x a).id = x.id := rfl
@[simp] theorem dropSession_accounts (x : DInst) (a : String) : (dropSession x a).accounts = x.accounts := rfl

theorem active_fst_some {c : Cluster} {x : DInst} {nm : String} {s : Session} (h : (active c x nm).1 = some s) :
    x.sessions.lookup nm = some s ∧ ¬ c.now - s.started > c.timeout := by
  revert h
  fun_cases active c x nm <;> intro h <;> cases h
  exact ⟨‹_›, ‹_›⟩

theorem getInst_setInst_at {c : Cluster} {i : Nat} {x x' : DInst} (hi : getInst c i = some x) (hid : x'.id = i)
    (k : Nat) : getInst (setInst c x') k = if k = i then some x' else getInst c k := by
  rw [getInst_setInst, hid]
  split
  · simp_all
  · rfl

theorem sessionOf_setInst {c : Cluster} {i : Nat} {x x' : DInst} (hi : getInst c i = some x)
    (hid : x'.id = i) (k : Nat) (nm : String) :
    sessionOf (setInst c x') k nm = if k = i then (active c x' nm).1 else sessionOf c k nm := by
  unfold sessionOf
  rw [getInst_setInst_at hi hid]
  by_cases hk : k = i
  · rw [if_pos hk, if_pos hk]; rfl
  · rw [if_neg hk, if_neg hk]; rfl

theorem holdsAccount_setInst {c : Cluster} {i : Nat} {x x' : DInst} (hi : getInst c i = some x)
    (hid : x'.id = i) (k : Nat) (nm : String) :
    holdsAccount (setInst c x') k nm = if k = i then x'.accounts.contains nm else holdsAccount c k nm := by
  unfold holdsAccount
  rw [getInst_setInst_at hi hid]
  by_cases hk : k = i
  · rw [if_pos hk, if_pos hk]
  · rw [if_neg hk, if_neg hk]

theorem sessionOf_eq {c : Cluster} {i : Nat} {x : DInst} (hi : getInst c i = some x) (acct : String) :
    sessionOf c i acct = (active c x acct).1 := by
  simp [sessionOf, hi]

theorem holdsAccount_eq {c : Cluster} {i : Nat} {x : DInst} (hi : getInst c i = some x) (acct : String) :
    holdsAccount c i acct = x.accounts.contains acct := by
  simp [holdsAccount, hi]

theorem sessionOf_some {c : Cluster} {i : Nat} {acct : String} {s : Session} (h : sessionOf c i acct = some s) :
    ∃ x, getInst c i = some x ∧ x.sessions.lookup acct = some s := by
  cases hx : getInst c i with
  | none => simp [sessionOf, hx] at h
  | some x => exact ⟨x, rfl, (active_fst_some (sessionOf_eq hx acct ▸ h)).1⟩

/-- the higher participants `onExecute` at `i` swaps with, in the order it visits them -/
def higher (parts : List Nat) (i : Nat) : List Nat :=
  sortAsc (parts.filter (fun j => j > i)).eraseDups

theorem onExecute_cases {c : Cluster} {i caller : Nat} {x : DInst} (acct : String)
    (hp : senderId c caller ≠ 0) (hi : getInst c i = some x) :
    onExecute c i caller acct =
      match (active c x acct).1 with
      | none => (setInst c (active c x acct).2, .refused)
      | some s =>
        ((swaps acct i s (setInst c (active c x acct).2) (higher s.participants i)).1,
         if (swaps acct i s (setInst c (active c x acct).2) (higher s.participants i)).2 then .ok else .refused) := by
  simp only [onExecute, hp, if_false, hi]
  rcases active c x acct with ⟨s?, x'⟩
  cases s? <;> rfl

/-- who counts as a peer: a configured id other than 0 (0 is what `senderID` returns for an unknown name) -/
theorem senderId_ne_zero {c : Cluster} {caller : Nat} :
    senderId c caller ≠ 0 ↔ c.peers.contains caller = true ∧ caller ≠ 0 := by
  unfold senderId
  split <;> rename_i h
  · exact ⟨fun hz => ⟨h, hz⟩, fun hz => hz.2⟩
  · exact ⟨fun hz => absurd rfl hz, fun hz => absurd hz.1 h⟩

/- Every handler answers a caller that is no peer, or an instance that does not exist, without touching the
   cluster; otherwise it reads the generation for `acct` (expiring it), and writes one instance back: cleaned,
   or cleaned and then edited under the name `acct`.  `Writes` says what such a write-back does to what can be
   observed; the `local simp` set below discharges its side conditions.  The `_cases` lemmas give a handler as
   an equation for a configured caller and an existing instance; the `_spec` theorems say when the reply is `ok`
   (`onPrepare_spec`: the whole reply, as an equation, since C17 needs `refused` too) and what is written. -/

attribute [local simp] active_snd_id active_snd_accounts active_active active_putSession active_dropSession

structure SameEnv (c c' : Cluster) : Prop where
  peers : c'.peers = c.peers
  now : c'.now = c.now
  timeout : c'.timeout = c.timeout
  inst : ∀ k, (getInst c' k).isSome = (getInst c k).isSome

theorem SameEnv.refl (c : Cluster) : SameEnv c c := ⟨rfl, rfl, rfl, fun _ => rfl⟩

theorem SameEnv.trans {c c' c'' : Cluster} (h : SameEnv c c') (h' : SameEnv c' c'') : SameEnv c c'' :=
  ⟨h'.peers.trans h.peers, h'.now.trans h.now, h'.timeout.trans h.timeout, fun k => (h'.inst k).trans (h.inst k)⟩

theorem sameEnv_setInst {c : Cluster} {x x' : DInst} (hi : getInst c x'.id = some x) : SameEnv c (setInst c x') := by
  refine ⟨rfl, rfl, rfl, fun k => ?_⟩
  rw [getInst_setInst_at hi rfl]
  split
  · simp_all
  · rfl

/-- `c'` is `c`, except that instance `i` now reads `v` as its generation for `acct` and `held` as
    whether it holds the account `acct` -/
structure Writes (c c' : Cluster) (i : Nat) (acct : String) (v : Option Session) (held : Bool) : Prop
    extends SameEnv c c' where
  session : ∀ k nm, sessionOf c' k nm = if k = i ∧ nm = acct then v else sessionOf c k nm
  account : ∀ k nm, holdsAccount c' k nm = if k = i ∧ nm = acct then held else holdsAccount c k nm

/-- overwriting the entry `(i, acct)` of a table by what it holds is no change (`ite_entry`: by another value) -/
theorem ite_entry_same {α : Type} (f : Nat → String → α) (i : Nat) (acct : String) (k : Nat) (nm : String) :
    (if k = i ∧ nm = acct then f i acct else f k nm) = f k nm := by
  split <;> simp_all

theorem Writes.refl (c : Cluster) (i : Nat) (acct : String) :
    Writes c c i acct (sessionOf c i acct) (holdsAccount c i acct) :=
  ⟨.refl c, fun k nm => (ite_entry_same (sessionOf c) i acct k nm).symm,
    fun k nm => (ite_entry_same (holdsAccount c) i acct k nm).symm⟩

theorem Writes.account_eq {c c' : Cluster} {i : Nat} {acct : String} {v : Option Session}
    (h : Writes c c' i acct v (holdsAccount c i acct)) (k : Nat) (nm : String) :
    holdsAccount c' k nm = holdsAccount c k nm :=
  (h.account k nm).trans (ite_entry_same (holdsAccount c) i acct k nm)

theorem Writes.session_eq {c c' : Cluster} {i : Nat} {acct : String} {held : Bool}
    (h : Writes c c' i acct (sessionOf c i acct) held) (k : Nat) (nm : String) :
    sessionOf c' k nm = sessionOf c k nm :=
  (h.session k nm).trans (ite_entry_same (sessionOf c) i acct k nm)

/-- a row `g` that agrees with row `i` of a table except under `acct`, put in its place, is an overwrite of one entry -/
theorem ite_entry {α : Type} (f : Nat → String → α) (g : String → α) (i : Nat) (acct : String)
    (h : ∀ nm, nm ≠ acct → g nm = f i nm) (k : Nat) (nm : String) :
    (if k = i then g nm else f k nm) = if k = i ∧ nm = acct then g acct else f k nm := by
  by_cases hk : k = i
  · by_cases hn : nm = acct
    · rw [if_pos hk, if_pos ⟨hk, hn⟩, hn]
    · rw [if_pos hk, if_neg (fun e => hn e.2), h nm hn, hk]
  · rw [if_neg hk, if_neg (fun e => hk e.1)]

theorem writes_setInst {c : Cluster} {i : Nat} {x : DInst} (hi : getInst c i = some x) (acct : String)
    (x' : DInst) (hid : x'.id = x.id) (hs : ∀ nm, nm ≠ acct → (active c x' nm).1 = (active c x nm).1)
    (ha : ∀ nm, nm ≠ acct → x'.accounts.contains nm = x.accounts.contains nm) :
    Writes c (setInst c x') i acct (active c x' acct).1 (x'.accounts.contains acct) := by
  have hid := hid.trans (getInst_id hi)
  exact ⟨sameEnv_setInst (hid ▸ hi),
    fun k nm => (sessionOf_setInst hi hid k nm).trans
      (ite_entry (sessionOf c) _ i acct (fun nm hn => (hs nm hn).trans (sessionOf_eq hi nm).symm) k nm),
    fun k nm => (holdsAccount_setInst hi hid k nm).trans
      (ite_entry (holdsAccount c) _ i acct (fun nm hn => (ha nm hn).trans (holdsAccount_eq hi nm).symm) k nm)⟩

/-- expiry on read changes nothing that can be observed -/
theorem writes_clean {c : Cluster} {i : Nat} {x : DInst} (hi : getInst c i = some x) (acct : String) :
    Writes c (setInst c (active c x acct).2) i acct (sessionOf c i acct) (holdsAccount c i acct) := by
  simpa [sessionOf_eq hi, holdsAccount_eq hi] using
    writes_setInst hi acct (active c x acct).2 (by simp) (by simp) (by simp)

theorem writes_put {c : Cluster} {i : Nat} {x : DInst} (hi : getInst c i = some x) (acct : String) (s : Session) :
    Writes c (setInst c (putSession x acct s)) i acct (active c (putSession x acct s) acct).1 (holdsAccount c i acct) := by
  rw [holdsAccount_eq hi]
  exact writes_setInst hi acct (putSession x acct s) rfl (by simp +contextual) (by simp)

theorem writes_clean_put {c : Cluster} {i : Nat} {x : DInst} (hi : getInst c i = some x) (acct : String) (s : Session)
    (hs : ¬ c.now - s.started > c.timeout) :
    Writes c (setInst c (putSession (active c x acct).2 acct s)) i acct (some s) (holdsAccount c i acct) := by
  have h := writes_setInst hi acct (putSession (active c x acct).2 acct s) (by simp) (by simp +contextual) (by simp)
  rwa [active_putSession, if_pos rfl, if_neg hs, putSession_accounts, active_snd_accounts, ← holdsAccount_eq hi] at h

theorem writes_clean_drop {c : Cluster} {i : Nat} {x : DInst} (hi : getInst c i = some x) (acct : String) :
    Writes c (setInst c (dropSession (active c x acct).2 acct)) i acct none (holdsAccount c i acct) := by
  have h := writes_setInst hi acct (dropSession (active c x acct).2 acct) (by simp) (by simp +contextual) (by simp)
  rwa [active_dropSession, if_pos rfl, dropSession_accounts, active_snd_accounts, ← holdsAccount_eq hi] at h

/-- a refusal after the instance was found writes back what the expiry on read left -/
theorem writes_refused {c : Cluster} {i : Nat} {x y : DInst} {acct : String} {o : Option Session}
    (hi : getInst c i = some x) (ha : active c x acct = (o, y)) :
    Writes c (setInst c y) i acct o (holdsAccount c i acct) := by
  simpa [sessionOf_eq hi, ha] using writes_clean hi acct

theorem onPrepare_spec (c : Cluster) (i caller : Nat) (acct : String) (t : Nat) (parts : List Nat) :
    (onPrepare c i caller acct t parts).2 =
      (if senderId c caller = 0 then .unknownSender
       else if getInst c i = none ∨ (sessionOf c i acct).isSome then .refused else .ok) ∧
    Writes c (onPrepare c i caller acct t parts).1 i acct
      (if (onPrepare c i caller acct t parts).2 = .ok then
        some { threshold := t, participants := parts, contributed := [i], started := c.now }
       else sessionOf c i acct) (holdsAccount c i acct) := by
  fun_cases onPrepare c i caller acct t parts with
  | case1 hp => simp [hp, Writes.refl]
  | case2 hp hi => simp [hp, hi, Writes.refl]
  | case3 hp x hi y s ha =>
    rw [sessionOf_eq hi, ha]
    exact ⟨by simp [hp, hi], writes_refused hi ha⟩
  | case4 hp x hi y ha =>
    rw [sessionOf_eq hi, ha]
    obtain rfl : (active c x acct).2 = y := by rw [ha]
    exact ⟨by simp [hp, hi], writes_clean_put hi acct _ (by simp)⟩

theorem onContribute_spec (c : Cluster) (j caller : Nat) (acct : String) (valid : Bool) (vlen : Nat) :
    ((onContribute c j caller acct valid vlen).2 = .ok ↔ senderId c caller ≠ 0 ∧
      ∃ s, sessionOf c j acct = some s ∧ valid = true ∧ vlen = s.threshold ∧ caller ∈ s.participants) ∧
    Writes c (onContribute c j caller acct valid vlen).1 j acct
      ((sessionOf c j acct).map fun s =>
        if (onContribute c j caller acct valid vlen).2 = .ok then
          { s with contributed := if s.contributed.contains caller then s.contributed else s.contributed ++ [caller] }
        else s) (holdsAccount c j acct) := by
  fun_cases onContribute c j caller acct valid vlen with
  | case1 hp => simp [hp, Writes.refl]
  | case2 hp hi => simpa [hp, hi, sessionOf] using Writes.refl c j acct
  | case3 hp x hi y ha =>
    rw [sessionOf_eq hi, ha]
    exact ⟨⟨nofun, fun ⟨_, _, hs, _⟩ => nomatch hs⟩, writes_refused hi ha⟩
  | case4 hp x hi y s h1 ha =>
    rw [sessionOf_eq hi, ha]
    exact ⟨⟨nofun, fun ⟨_, _, _, g1, _⟩ => by simp [g1] at h1⟩, writes_refused hi ha⟩
  | case5 hp x hi y s h1 h2 ha =>
    rw [sessionOf_eq hi, ha]
    exact ⟨⟨nofun, fun ⟨_, _, hs, _, g2, _⟩ => by cases hs; exact absurd g2 h2⟩, writes_refused hi ha⟩
  | case6 hp x hi y s h1 h2 h3 ha =>
    rw [sessionOf_eq hi, ha]
    exact ⟨⟨nofun, fun ⟨_, _, hs, _, _, g3⟩ => by cases hs; simp [g3] at h3⟩, writes_refused hi ha⟩
  | case7 hp x hi y s h1 h2 h3 s' ha =>
    rw [sessionOf_eq hi, ha]
    obtain rfl : (active c x acct).2 = y := by rw [ha]
    exact ⟨⟨fun _ => ⟨hp, s, rfl, by simpa using h1, by simpa using h2, by simpa using h3⟩, fun _ => rfl⟩,
      writes_clean_put hi acct _ (active_fst_some (congrArg Prod.fst ha)).2⟩

theorem onCommit_spec (c : Cluster) (i caller : Nat) (acct : String) :
    ((onCommit c i caller acct).2 = .ok ↔ senderId c caller ≠ 0 ∧
      ∃ s, sessionOf c i acct = some s ∧ s.contributed.length = s.participants.length ∧
        (∀ p ∈ s.participants, p ∈ s.contributed) ∧ distributedWallet acct = true ∧ holdsAccount c i acct = false) ∧
    Writes c (onCommit c i caller acct).1 i acct
      (if (onCommit c i caller acct).2 = .ok then none else sessionOf c i acct)
      (if (onCommit c i caller acct).2 = .ok then true else holdsAccount c i acct) := by
  fun_cases onCommit c i caller acct with
  | case1 hp => simp [hp, Writes.refl]
  | case2 hp hi => simpa [hp, hi, sessionOf] using Writes.refl c i acct
  | case3 hp x hi y ha =>
    rw [sessionOf_eq hi, ha]
    exact ⟨⟨nofun, fun ⟨_, _, hs, _⟩ => nomatch hs⟩, writes_refused hi ha⟩
  | case4 hp x hi y s h1 ha =>
    rw [sessionOf_eq hi, ha]
    exact ⟨⟨nofun, fun ⟨_, _, hs, g1, _⟩ => by cases hs; exact absurd g1 h1⟩, writes_refused hi ha⟩
  | case5 hp x hi y s h1 h2 ha =>
    rw [sessionOf_eq hi, ha]
    refine ⟨⟨nofun, fun ⟨_, _, hs, _, g2, _⟩ => ?_⟩, writes_refused hi ha⟩
    cases hs
    rw [List.all_eq_true.mpr fun p hp => by simpa using g2 p hp] at h2; cases h2
  | case6 hp x hi y s h1 h2 h3 ha =>
    rw [sessionOf_eq hi, ha]
    exact ⟨⟨nofun, fun ⟨_, _, _, _, _, g3, _⟩ => by rw [g3] at h3; cases h3⟩, writes_refused hi ha⟩
  | case7 hp x hi y s h1 h2 h3 h4 ha =>
    rw [sessionOf_eq hi, ha]
    refine ⟨⟨nofun, fun ⟨_, _, _, _, _, _, g4⟩ => ?_⟩, writes_refused hi ha⟩
    rw [holdsAccount_eq hi, ← active_snd_accounts c x acct, ha, h4] at g4; cases g4
  | case8 hp x hi y s h1 h2 h3 h4 ha =>
    rw [sessionOf_eq hi, ha]
    obtain rfl : (active c x acct).2 = y := by rw [ha]
    have hc := writes_setInst hi acct { (dropSession (active c x acct).2 acct) with
      accounts := acct :: (active c x acct).2.accounts } (by simp)
      (fun nm hn => (active_accounts_irrel c (dropSession (active c x acct).2 acct) _ nm).trans (by simp [hn]))
      (by simp +contextual)
    rw [active_accounts_irrel, active_dropSession, if_pos rfl] at hc
    refine ⟨⟨fun _ => ⟨hp, s, rfl, by simpa using h1, by simpa using h2, by simpa using h3, ?_⟩, fun _ => rfl⟩,
      by simpa using hc⟩
    rw [holdsAccount_eq hi, ← active_snd_accounts c x acct]
    simpa using h4

theorem onCommit_ok_writes {c : Cluster} {i caller : Nat} {acct : String} (h : (onCommit c i caller acct).2 = .ok) :
    Writes c (onCommit c i caller acct).1 i acct none true := by
  have hw := (onCommit_spec c i caller acct).2
  rwa [if_pos h, if_pos h] at hw

theorem onCommit_refused_writes {c : Cluster} {i caller : Nat} {acct : String} (h : (onCommit c i caller acct).2 ≠ .ok) :
    Writes c (onCommit c i caller acct).1 i acct (sessionOf c i acct) (holdsAccount c i acct) := by
  have hw := (onCommit_spec c i caller acct).2
  rwa [if_neg h, if_neg h] at hw

/-- a successful commit leaves no entry for `acct` in the stored list (not only none that is read) -/
theorem onCommit_ok_lookup {c : Cluster} {i caller : Nat} {acct : String} (h : (onCommit c i caller acct).2 = .ok)
    (k : Nat) :
    (getInst (onCommit c i caller acct).1 k).map (·.sessions.lookup acct) =
      if k = i then some none else (getInst c k).map (·.sessions.lookup acct) := by
  revert h
  fun_cases onCommit c i caller acct <;> intro h <;> try cases h
  rename_i x hi y _ _ _ _ _ ha
  have hy : y.id = i := by rw [← getInst_id hi, ← active_snd_id c x acct, ha]
  dsimp only
  rw [getInst_setInst_at hi (by exact hy)]
  by_cases hk : k = i
  · simp [hk, dropSession, lookup_filter_ne]
  · simp [hk]

theorem onAbort_spec (c : Cluster) (i caller : Nat) (acct : String) :
    ((onAbort c i caller acct).2 = .ok ↔ senderId c caller ≠ 0 ∧ (sessionOf c i acct).isSome) ∧
    Writes c (onAbort c i caller acct).1 i acct
      (if (onAbort c i caller acct).2 = .ok then none else sessionOf c i acct) (holdsAccount c i acct) := by
  fun_cases onAbort c i caller acct with
  | case1 hp => simp [hp, Writes.refl]
  | case2 hp hi => simpa [hp, hi, sessionOf] using Writes.refl c i acct
  | case3 hp x hi y ha =>
    rw [sessionOf_eq hi, ha]
    exact ⟨by simp, writes_refused hi ha⟩
  | case4 hp x hi y s ha =>
    rw [sessionOf_eq hi, ha]
    obtain rfl : (active c x acct).2 = y := by rw [ha]
    exact ⟨by simp [hp], writes_clean_drop hi acct⟩

/-- `c'` is `c` up to who has contributed to the generations for `acct` -/
structure Quiet (acct : String) (c c' : Cluster) : Prop extends SameEnv c c' where
  account : ∀ k nm, holdsAccount c' k nm = holdsAccount c k nm
  other : ∀ k nm, nm ≠ acct → sessionOf c' k nm = sessionOf c k nm
  started : ∀ k, (sessionOf c' k acct).map (·.started) = (sessionOf c k acct).map (·.started)

theorem Quiet.refl (acct : String) (c : Cluster) : Quiet acct c c :=
  ⟨.refl c, fun _ _ => rfl, fun _ _ _ => rfl, fun _ => rfl⟩

theorem Quiet.trans {acct : String} {c c' c'' : Cluster} (h : Quiet acct c c') (h' : Quiet acct c' c'') :
    Quiet acct c c'' :=
  ⟨h.toSameEnv.trans h'.toSameEnv,
   fun k nm => (h'.account k nm).trans (h.account k nm), fun k nm hn => (h'.other k nm hn).trans (h.other k nm hn),
   fun k => (h'.started k).trans (h.started k)⟩

theorem Writes.quiet {c c' : Cluster} {i : Nat} {acct : String} {v : Option Session}
    (h : Writes c c' i acct v (holdsAccount c i acct))
    (hv : v.map (·.started) = (sessionOf c i acct).map (·.started)) : Quiet acct c c' := by
  refine ⟨h.toSameEnv, h.account_eq, fun k nm hn => ?_, fun k => ?_⟩
  · rw [h.session, if_neg (fun h => hn h.2)]
  · rw [h.session, apply_ite (Option.map _), hv]
    exact ite_entry_same (fun k nm => (sessionOf c k nm).map (·.started)) i acct k acct

theorem onContribute_quiet (c : Cluster) (j caller : Nat) (acct : String) (valid : Bool) (vlen : Nat) :
    Quiet acct c (onContribute c j caller acct valid vlen).1 := by
  refine (onContribute_spec c j caller acct valid vlen).2.quiet ?_
  cases sessionOf c j acct with
  | none => rfl
  | some s => simp only [Option.map]; split <;> rfl

/-- every exit of `swap` returns `c`, the cluster `c1` after `j`'s `onContribute`, or `c1` with `j`'s contribution
    stored at `i` under the start time the stored entry already had -/
theorem swap_quiet (c : Cluster) (i j : Nat) (acct : String) (si : Session) :
    Quiet acct c (swap c i j acct si).1 := by
  have h1 := onContribute_quiet c j i acct true si.threshold
  fun_cases swap c i j acct si
  case case1 | case2 => exact .refl _ _
  case case9 _ _ _ _ c1 r hoc _ _ _ _ xi hxi s hs _ =>
    rw [hoc] at h1
    refine h1.trans ((writes_put hxi acct { s with contributed := s.contributed ++ [j] }).quiet ?_)
    rw [active_putSession, if_pos rfl, sessionOf_eq hxi, active_fst, hs]
    dsimp only
    split <;> rfl
  -- every other exit returns the cluster after `j`'s `onContribute`
  all_goals
    rw [‹onContribute c j i acct true si.threshold = _›] at h1
    exact h1

theorem swaps_quiet (acct : String) (i : Nat) (si : Session) (l : List Nat) (c : Cluster) :
    Quiet acct c (swaps acct i si c l).1 := by
  fun_induction swaps acct i si c l with
  | case1 c => exact .refl _ c
  | case2 c j rest c' hsw ih => exact (congrArg Prod.fst hsw ▸ swap_quiet c i j acct si).trans ih
  | case3 c j rest c' ok hsw hok => exact congrArg Prod.fst hsw ▸ swap_quiet c i j acct si

theorem onExecute_spec (c : Cluster) (i caller : Nat) (acct : String) :
    ((onExecute c i caller acct).2 = .ok → (sessionOf c i acct).isSome) ∧
    Quiet acct c (onExecute c i caller acct).1 := by
  by_cases hp : senderId c caller = 0
  · simp [onExecute, hp, Quiet.refl]
  cases hi : getInst c i with
  | none => simp [onExecute, hp, hi, Quiet.refl]
  | some x =>
    have hclean := (writes_clean hi acct).quiet rfl
    rw [onExecute_cases acct hp hi, sessionOf_eq hi]
    cases hv : (active c x acct).1 with
    | none => exact ⟨by simp, hclean⟩
    | some s => exact ⟨fun _ => rfl, hclean.trans (swaps_quiet acct i s _ _)⟩

/-- generations for different account names do not interfere in the multi-instance events either: contributions and
    the whole execute exchange.  (`C17_independent_names` says it for prepare, commit and abort; it does not rest on this.) -/
theorem independent_names_exchange (c : Cluster) (i caller k : Nat) (acct other : String) (valid : Bool)
    (vlen : Nat) (hne : other ≠ acct) :
    sessionOf (onContribute c i caller acct valid vlen).1 k other = sessionOf c k other ∧
    sessionOf (onExecute c i caller acct).1 k other = sessionOf c k other :=
  ⟨(onContribute_quiet c i caller acct valid vlen).other k other hne, (onExecute_spec c i caller acct).2.other k other hne⟩

@[simp] theorem getInst_tick (c : Cluster) (d i : Nat) : getInst (tick c d) i = getInst c i := rfl

/-- a tick only expires: what was read as active is still read, unless it is now too old -/
theorem sessionOf_tick (c : Cluster) (d i : Nat) (acct : String) :
    sessionOf (tick c d) i acct =
      match sessionOf c i acct with
      | none => none
      | some s => if c.now + d - s.started > c.timeout then none else some s := by
  unfold sessionOf
  rw [getInst_tick]
  cases getInst c i with
  | none => rfl
  | some x =>
    simp only [active_fst]
    cases x.sessions.lookup acct with
    | none => rfl
    | some s =>
      show (if c.now + d - s.started > c.timeout then none else some s) = _
      by_cases h : c.now - s.started > c.timeout
      · have h' : c.now + d - s.started > c.timeout :=
          Nat.lt_of_lt_of_le h (Nat.sub_le_sub_right (Nat.le_add_right _ _) _)
        simp only [h, h', if_true]
      · simp only [h, if_false]

theorem fixed_rejects_wrong_length (valid : Bool) (vlen t : Nat) (listed : Bool) (h : vlen ≠ t) :
    fixedAccepts valid vlen t listed = false := by
  simp [fixedAccepts, h]

end Dirk.Dkg
