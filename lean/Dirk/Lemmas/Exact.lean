/-
  Dirk.Lemmas.Exact — on clean histories (no injected fault, every approvable request can be hashed
  and signed) that start from an empty store, the stored record of every key is EXACTLY the last
  released signature for that key (or "nothing").  Consequences: the export is exact (C11), the last
  released is the highest released, and advancing well-formed authorised requests are signed (C09 at
  history level).
-/
import Dirk.Lemmas.Run

namespace Dirk

/-- an operation of a clean history: no injected fault, and hashing succeeds for every request
    (the implementation's only hashing failure is a domain that is not 32 bytes long).  An import (raw or
    by the import command) is never clean (it writes records that are not released signatures); account
    creation, account and wallet lock / unlock are clean (they do not touch the store). -/
def Op.clean : Op → Prop
  | .att _ _ d f => f.fetchFail = [] ∧ f.storeFail = false ∧ d.signingRoot ≠ none
  | .atts _ items f => f.fetchFail = [] ∧ f.storeFail = false ∧ ∀ it ∈ items, it.2.signingRoot ≠ none
  | .prop _ _ d f => f.fetchFail = [] ∧ f.storeFail = false ∧ d.signingRoot ≠ none
  | .importRec _ _ => False
  | .importCmd _ _ => False
  | _ => True

/-- operations that cannot change the configuration (everything except account creation and the account
    manager's lock / unlock) -/
def Op.keepsCfg : Op → Prop
  | .create _ _ _ => False
  | .setUnlockable _ _ _ => False
  | _ => True

/-- a clean operation is not a raw import -/
theorem safeHist_of_clean : ∀ (ops : List Op) (s : Inst), (∀ op ∈ ops, op.clean) → SafeHist s ops :=
  fun ops s h => safeHist_of_noRawImport ops s fun op ho => by
    have := h op ho
    cases op <;> first | rfl | exact this.elim

/-- the last attestation released for key k as a record, or (−1,−1) -/
def lastVote (log : List (Bytes × AttData)) (k : Bytes) : AttState :=
  match (log.filter (fun e => e.1 = k)).getLast? with
  | none => ⟨-1, -1⟩
  | some e => ⟨(e.2.src : Int), (e.2.tgt : Int)⟩

/-- the last proposal slot released for key k, or −1 -/
def lastSlot (log : List (Bytes × PropData)) (k : Bytes) : Int :=
  match (log.filter (fun e => e.1 = k)).getLast? with
  | none => -1
  | some e => (e.2.slot : Int)

/-! ## the last entry of a key

`lastVote` and `lastSlot` are both `lastRec`: the record `g` of the last entry filed under `k`, or `d`. -/

section lastRec
variable {α β : Type} (d : β) (g : α → β)

def lastRec (log : List (Bytes × α)) (k : Bytes) : β :=
  match (log.filter (fun e => e.1 = k)).getLast? with
  | none => d
  | some e => g e.2

variable {d g}

/-- the log is read from its end: what came earlier only supplies the default -/
theorem lastRec_append (log new : List (Bytes × α)) (k : Bytes) :
    lastRec d g (log ++ new) k = lastRec (lastRec d g log k) g new k := by
  unfold lastRec
  rw [List.filter_append, List.getLast?_append]
  cases (new.filter (fun e => e.1 = k)).getLast? <;> rfl

theorem lastRec_cases (log : List (Bytes × α)) (k : Bytes) :
    (lastRec d g log k = d ∧ ∀ e ∈ log, e.1 ≠ k) ∨ ∃ e ∈ log, e.1 = k ∧ lastRec d g log k = g e.2 := by
  unfold lastRec
  cases h : (log.filter (fun e => e.1 = k)).getLast? with
  | none =>
    refine Or.inl ⟨rfl, fun e he => ?_⟩
    simpa using List.filter_eq_nil_iff.mp (List.getLast?_eq_none_iff.mp h) e he
  | some e =>
    obtain ⟨h1, h2⟩ := List.mem_filter.mp (List.mem_of_getLast? h)
    exact Or.inr ⟨e, h1, by simpa using h2, rfl⟩

theorem lastRec_max {R : α → α → Prop} {log : List (Bytes × α)}
    (hp : log.Pairwise (fun a b => a.1 = b.1 → R a.2 b.2)) {e : Bytes × α} (he : e ∈ log) :
    ∃ z, lastRec d g log e.1 = g z ∧ (e.2 = z ∨ R e.2 z) := by
  unfold lastRec
  cases hl : (log.filter (fun x => x.1 = e.1)).getLast? with
  | none =>
    have := List.getLast?_eq_none_iff.mp hl ▸ List.mem_filter.mpr ⟨he, by simp⟩
    cases this
  | some z =>
    refine ⟨z.2, rfl, ?_⟩
    obtain ⟨ys, hys⟩ := List.getLast?_eq_some_iff.mp hl
    have hz : z.1 = e.1 := by simpa using (List.mem_filter.mp (List.mem_of_getLast? hl)).2
    have hp' := hys ▸ hp.filter (fun x : Bytes × α => x.1 = e.1)
    rcases List.mem_append.mp (hys ▸ List.mem_filter.mpr ⟨he, by simp⟩) with h | h
    · exact Or.inr ((List.pairwise_append.mp hp').2.2 e h z (by simp) hz.symm)
    · exact Or.inl (by simp at h; rw [h])

/-- The one step of every exactness proof.  A call looks at the records of the keys of `keyed` and writes, for each,
    the entry if it passes `p` and the record as it was if not; the entries that pass are released.  Every record is
    still the last entry of its key.  (That the keys are distinct is what `hin` needs to be true, not this proof.) -/
theorem exact_extend {last : List (Bytes × α) → Bytes → β} (hl : ∀ log k, last log k = lastRec d g log k)
    {fetch fetch' : Bytes → Option β} {log keyed : List (Bytes × α)} (p : Bytes × α → Prop) [DecidablePred p]
    (h : ∀ k, fetch k = some (last log k))
    (hin : ∀ it ∈ keyed, fetch' it.1 = some (if p it then g it.2 else last log it.1))
    (hout : ∀ k, k ∉ keyed.map (·.1) → fetch' k = fetch k) (k : Bytes) :
    fetch' k = some (last (log ++ keyed.filter p) k) := by
  simp only [hl] at h hin ⊢
  rw [lastRec_append]
  rcases lastRec_cases (d := lastRec d g log k) (g := g) (keyed.filter p) k with ⟨hv, hno⟩ | ⟨z, hz, rfl, hv⟩
  · rw [hv]
    by_cases hk : k ∈ keyed.map (·.1)
    · obtain ⟨it, hit, rfl⟩ := List.mem_map.mp hk
      rw [hin it hit, if_neg fun hp => hno it (List.mem_filter.mpr ⟨hit, decide_eq_true hp⟩) rfl]
    · rw [hout k hk, h k]
  · obtain ⟨hz1, hz2⟩ := List.mem_filter.mp hz
    rw [hv, hin z hz1, if_pos (of_decide_eq_true hz2)]

end lastRec

theorem lastVote_nil (k : Bytes) : lastVote [] k = ⟨-1, -1⟩ := rfl
theorem lastSlot_nil (k : Bytes) : lastSlot [] k = -1 := rfl

-- (not `rfl`: the two sides are different matchers applied to the same stuck scrutinee)
theorem lastVote_eq (log : List (Bytes × AttData)) (k : Bytes) :
    lastVote log k = lastRec ⟨-1, -1⟩ (fun d => ⟨(d.src : Int), (d.tgt : Int)⟩) log k := by
  unfold lastVote lastRec
  cases (log.filter (fun e => e.1 = k)).getLast? <;> rfl

theorem lastSlot_eq (log : List (Bytes × PropData)) (k : Bytes) :
    lastSlot log k = lastRec (-1) (fun d => (d.slot : Int)) log k := by
  unfold lastSlot lastRec
  cases (log.filter (fun e => e.1 = k)).getLast? <;> rfl

theorem lastVote_cases (log : List (Bytes × AttData)) (k : Bytes) :
    (lastVote log k = ⟨-1, -1⟩ ∧ ∀ e ∈ log, e.1 ≠ k) ∨
    ∃ e ∈ log, e.1 = k ∧ lastVote log k = ⟨(e.2.src : Int), (e.2.tgt : Int)⟩ := by
  rw [lastVote_eq]; exact lastRec_cases log k

theorem lastSlot_cases (log : List (Bytes × PropData)) (k : Bytes) :
    (lastSlot log k = -1 ∧ ∀ e ∈ log, e.1 ≠ k) ∨ ∃ e ∈ log, e.1 = k ∧ lastSlot log k = (e.2.slot : Int) := by
  rw [lastSlot_eq]; exact lastRec_cases log k

structure ExactInv (s : Inst) : Prop where
  att : ∀ k, fetchAtt s.db k false = some (lastVote s.attLog k)
  prop : ∀ k, fetchProp s.db k false = some (lastSlot s.propLog k)

theorem init_exactInv (cfg : Config) : ExactInv (init cfg []) :=
  ⟨fun _ => rfl, fun _ => rfl⟩

/-- the rules call on distinct keys without a fault, every record being `L` of its key -/
theorem rulesKeyed_clean {db : Db} {keyed : List (Bytes × AttData)} {f : Faults} {L : Bytes → AttState}
    (hff : f.fetchFail = []) (hsf : f.storeFail = false) (hf : ∀ k, fetchAtt db k false = some (L k))
    (hn : (keyed.map (·.1)).Nodup) (hne : keyed ≠ []) :
    (rulesKeyed db keyed f).1 =
      some (keyed.map fun it => (it.1, it.2, if AttOK it.2.req (L it.1) then .approved else .denied)) ∧
    (∀ it ∈ keyed, fetchAtt (rulesKeyed db keyed f).2 it.1 false =
      some (if AttOK it.2.req (L it.1) then ⟨(it.2.src : Int), (it.2.tgt : Int)⟩ else L it.1)) ∧
    (∀ k, k ∉ keyed.map (·.1) → fetchAtt (rulesKeyed db keyed f).2 k false = fetchAtt db k false) := by
  unfold rulesKeyed
  split
  · rename_i k d
    simp only [onAttest_clean hff hsf (hf k), List.mem_singleton, forall_eq, List.map_cons, List.map_nil]
    by_cases hv : AttOK d.req (L k) <;> simp only [hv, ↓reduceIte, true_and]
    · exact ⟨fetchAtt_put_att_same _ _ _ (inI64_of_le hv.2.2.1) (inI64_of_le hv.2.2.2.1),
        fun k' hk' => fetchAtt_put_att_other hk'⟩
    · exact ⟨hf k, fun _ _ => trivial⟩
  · rw [onAttestBatch_clean AttData.req hff hsf hne (fun it _ => hf it.1)]
    have hi := fun it : Bytes × AttData =>
      attChecks_inI64 it.2.req (fetchAtt_inI64 (hf it.1)).1 (fetchAtt_inI64 (hf it.1)).2
    -- verdicts and outcomes as conditions on `AttOK`: the verdicts are then those claimed
    simp only [attChecks_eq, apply_ite Prod.fst, apply_ite Prod.snd] at hi ⊢
    exact ⟨trivial, fun it hit => fetchAtt_putMany_mem db keyed (·.1) _ hn hit (hi it).1 (hi it).2,
      fun k hk => fetchAtt_putMany_notin db keyed (·.1) _ hk⟩

/-- the signing pass without a fault releases the approved positions -/
theorem signEvs_clean (p : Bytes × AttData → Prop) [DecidablePred p] :
    ∀ (items : List (Bytes × AttData)) (i : Nat), (∀ it ∈ items, it.2.signingRoot ≠ none) →
      (signEvs [] i (items.map fun it => (it.1, it.2, if p it then .approved else .denied))).filterMap (·.2)
        = items.filter p
  | [], _, _ => rfl
  | it :: rest, i, hr => by
    have ih := signEvs_clean p rest (i + 1) (fun x hx => hr x (by simp [hx]))
    have hroot := hr it (by simp)
    simp only [List.map_cons, signEvs_eq_map, List.zipIdx_cons, List.filterMap_cons, List.filter_cons] at ih ⊢
    rw [signOne_eq, ih]
    by_cases hg : p it <;> simp [hg, hroot]

theorem attestKeyed_exact {s : Inst} (h : ExactInv s) (keyed : List (Bytes × AttData)) (f : Faults)
    (hff : f.fetchFail = []) (hsf : f.storeFail = false)
    (hroot : ∀ it ∈ keyed, it.2.signingRoot ≠ none) (hn : (keyed.map (·.1)).Nodup) :
    ExactInv (attestKeyed s keyed f []).1 := by
  cases keyed with
  | nil => exact h
  | cons it0 rest =>
    obtain ⟨hA, hB, hC⟩ := rulesKeyed_clean hff hsf h.att hn (List.cons_ne_nil it0 rest)
    simp only [attestKeyed, finishKeyed, hA, signEvs_clean _ _ 0 hroot]
    exact ⟨exact_extend lastVote_eq _ h.att hB hC, fun k => (rulesKeyed_prop_frame ..).trans (h.prop k)⟩

theorem signAtts_exact {s : Inst} (h : ExactInv s) (c : String) (items : List (Addr × AttData))
    (f : Faults) (hff : f.fetchFail = []) (hsf : f.storeFail = false)
    (hroot : ∀ it ∈ items, it.2.signingRoot ≠ none) : ExactInv (signAtts s c items f []).1 := by
  rcases signAtts_cases s c items f [] with h0 | ⟨hn, h1⟩
  · rw [h0]; exact h
  · rw [h1]
    refine attestKeyed_exact h _ f hff hsf (fun it hit => ?_) hn
    obtain ⟨x, hx, _, _, rfl⟩ := mem_okItems_preCheckAll hit
    exact hroot x hx

theorem signAtt_exact {s : Inst} (h : ExactInv s) (c : String) (a : Addr) (d : AttData) (f : Faults)
    (hff : f.fetchFail = []) (hsf : f.storeFail = false) (hroot : d.signingRoot ≠ none) :
    ExactInv (signAtt s c a d f false).1 := by
  rcases signAtt_cases s c a d f false with h0 | ⟨acct, _, _, h1⟩
  · rw [h0]; exact h
  · rw [h1]; exact attestKeyed_exact h _ f hff hsf (by simpa using hroot) (by simp)

theorem signProp_exact {s : Inst} (h : ExactInv s) (c : String) (a : Addr) (d : PropData) (f : Faults)
    (hff : f.fetchFail = []) (hsf : f.storeFail = false) (hroot : d.signingRoot ≠ none) :
    ExactInv (signProp s c a d f false).1 := by
  rcases signProp_cases s c a d f false with h0 | ⟨acct, _, hwf, hpc, _⟩
  · rw [h0]; exact h
  · have hon := onPropose_clean hff hsf (h.prop acct.pubkey) ⟨d.domain.getD [], d.slot⟩
    obtain ⟨root, hr⟩ := Option.ne_none_iff_exists'.mp hroot
    by_cases hok : PropOK ⟨d.domain.getD [], d.slot⟩ (lastSlot s.propLog acct.pubkey)
    · rw [if_pos hok] at hon
      rw [signProp_approved_eq hwf hpc hon hr]
      exact ⟨fun k => (fetchAtt_put_prop ..).trans (h.att k),
        exact_extend (keyed := [(acct.pubkey, d)]) lastSlot_eq (fun _ => True) h.prop
          (by simpa using fetchProp_put_prop_same _ _ _ (inI64_of_le hok.2.1))
          fun k hk => fetchProp_put_prop_other (by simpa using hk)⟩
    · rw [if_neg hok] at hon
      rw [signProp_denied_eq hwf hpc hon]
      exact h

theorem step_exactInv (s : Inst) (op : Op) (h : ExactInv s) (hc : op.clean) : ExactInv (step s op).1 := by
  cases op with
  | att c a d f => exact signAtt_exact h c a d f hc.1 hc.2.1 hc.2.2
  | atts c items f => exact signAtts_exact h c items f hc.1 hc.2.1 hc.2.2
  | prop c a d f => exact signProp_exact h c a d f hc.1 hc.2.1 hc.2.2
  | sign c ip a d => exact (signGeneric_state s c ip a d false false).elim fun _ e => e ▸ ⟨h.att, h.prop⟩
  | msign c ip items => exact (multisign_state s c ip items [] false).elim fun _ e => e ▸ ⟨h.att, h.prop⟩
  | restart => exact h
  | importRec k r => exact absurd hc id
  | importCmd gvr f => exact absurd hc id
  | create c p pk => simp only [step]; split <;> exact ⟨h.att, h.prop⟩
  | setUnlockable w n b => exact ⟨h.att, h.prop⟩
  | lockWallet c w => exact h
  | unlockWallet c w => exact h

theorem run_exactInv (ops : List Op) (s : Inst) (h : ExactInv s) (hc : ∀ op ∈ ops, op.clean) :
    ExactInv (run s ops) :=
  run_forall step_exactInv ops s h hc

theorem run_init_exactInv (cfg : Config) (ops : List Op) (hc : ∀ op ∈ ops, op.clean) :
    ExactInv (run (init cfg []) ops) :=
  run_exactInv ops _ (init_exactInv cfg) hc

theorem attestKeyed_cfg (s : Inst) (keyed : List (Bytes × AttData)) (f : Faults) (sf : List Nat) :
    (attestKeyed s keyed f sf).1.cfg = s.cfg := by
  unfold attestKeyed finishKeyed
  split <;> rfl

/-- what a step does to the configuration, for every operation -/
theorem step_cfg_cases (s : Inst) (op : Op) :
    (step s op).1.cfg = s.cfg ∨
    (∃ c p pk cfg', op = .create c p pk ∧ createAccount s.cfg c p pk = some cfg' ∧ (step s op).1.cfg = cfg') ∨
    (∃ w n b, op = .setUnlockable w n b ∧ (step s op).1.cfg = setUnlockable s.cfg w n b) := by
  cases op with
  | att c a d f =>
    rcases signAtt_cases s c a d f false with h0 | ⟨_, _, _, h1⟩
    · exact .inl (congrArg Inst.cfg h0)
    · exact .inl ((congrArg Inst.cfg h1).trans (attestKeyed_cfg ..))
  | atts c items f =>
    rcases signAtts_cases s c items f [] with h0 | ⟨_, h1⟩
    · exact .inl (congrArg Inst.cfg h0)
    · exact .inl ((congrArg (·.1.cfg) h1).trans (attestKeyed_cfg ..))
  | prop c a d f =>
    rcases signProp_cases s c a d f false with h0 | ⟨_, _, _, _, h1, _⟩
    · exact .inl (congrArg Inst.cfg h0)
    · exact .inl ((congrArg Inst.cfg h1).trans rfl)
  | sign c ip a d => exact .inl ((signGeneric_state s c ip a d false false).elim fun _ h => (congrArg Inst.cfg h).trans rfl)
  | msign c ip items => exact .inl ((multisign_state s c ip items [] false).elim fun _ h => (congrArg Inst.cfg h).trans rfl)
  | importCmd gvr f => exact .inl (by simp only [step]; split <;> rfl)
  | create c p pk =>
    cases hca : createAccount s.cfg c p pk with
    | none => exact .inl (by simp [step, hca])
    | some cfg' => exact .inr (.inl ⟨c, p, pk, cfg', rfl, hca, by simp [step, hca]⟩)
  | setUnlockable w n b => exact .inr (.inr ⟨w, n, b, rfl, rfl⟩)
  | restart | importRec _ _ | lockWallet _ _ | unlockWallet _ _ => exact .inl rfl

/-- (`_partial`: `Op.create` and `Op.setUnlockable` do change the configuration) -/
theorem step_cfg_partial (s : Inst) (op : Op) (hk : op.keepsCfg) : (step s op).1.cfg = s.cfg := by
  rcases step_cfg_cases s op with h | ⟨_, _, _, _, rfl, _⟩ | ⟨_, _, _, rfl, _⟩
  · exact h
  · exact hk.elim
  · exact hk.elim

theorem run_cfg_partial (ops : List Op) : ∀ (s : Inst), (∀ op ∈ ops, op.keepsCfg) → (run s ops).cfg = s.cfg :=
  fun s => run_forall (P := fun s' => s'.cfg = s.cfg) (fun s' op h hk => (step_cfg_partial s' op hk).trans h) ops s rfl

theorem lastVote_max {log : List (Bytes × AttData)} (hm : LogMono log) {e : Bytes × AttData} (he : e ∈ log) :
    (e.2.tgt : Int) ≤ (lastVote log e.1).tgt ∧ (e.2.src : Int) ≤ (lastVote log e.1).src := by
  rw [lastVote_eq]
  obtain ⟨z, hv, h⟩ := lastRec_max (d := (⟨-1, -1⟩ : AttState)) (g := fun d => ⟨(d.src : Int), (d.tgt : Int)⟩) hm he
  rw [hv]
  rcases h with rfl | h
  · simp
  · simp only; unfold VoteLt at h; omega

theorem lastSlot_max {log : List (Bytes × PropData)} (hm : PLogMono log) {e : Bytes × PropData} (he : e ∈ log) :
    (e.2.slot : Int) ≤ lastSlot log e.1 := by
  rw [lastSlot_eq]
  obtain ⟨z, hv, h⟩ := lastRec_max (d := (-1 : Int)) (g := fun d : PropData => (d.slot : Int))
    (R := fun a b => a.slot < b.slot) hm he
  rw [hv]
  rcases h with rfl | h
  · simp
  · omega

theorem signAtt_live {s : Inst} (h : ExactInv s) (c : String) (a : Addr) (d : AttData) (acct : Account)
    (hwf : d.wellFormed = true) (hpc : preCheck s.cfg c a opAttest = .ok acct)
    (hroot : d.signingRoot ≠ none) (hdom : prefix4 (d.domain.getD []) = domAttester)
    (hord : d.src < d.tgt ∨ (d.src = 0 ∧ d.tgt = 0)) (hs : d.src ≤ maxI64) (ht : d.tgt ≤ maxI64)
    (hadv : ∀ e ∈ s.attLog, e.1 = acct.pubkey → e.2.tgt < d.tgt ∧ e.2.src ≤ d.src) :
    (signAtt s c a d {} false).2.res = .succeeded := by
  have hok : AttOK d.req (lastVote s.attLog acct.pubkey) := by
    refine ⟨hdom, hord, hs, ht, ?_⟩
    rcases lastVote_cases s.attLog acct.pubkey with ⟨hv, _⟩ | ⟨e, he, hek, hv⟩
    · rw [hv]; simp only; omega
    · rw [hv]; have := hadv e he hek; simp only [AttData.req]; omega
  have happ : (onAttest s.db acct.pubkey d.req {}).1 = .approved := by
    rw [onAttest_clean rfl rfl (h.att acct.pubkey), if_pos hok]
  rw [signAtt_eq, signSingle_ok hwf hpc, if_pos ⟨happ, rfl, hroot⟩]

theorem signProp_live {s : Inst} (h : ExactInv s) (c : String) (a : Addr) (d : PropData) (acct : Account)
    (hwf : d.wellFormed = true) (hpc : preCheck s.cfg c a opPropose = .ok acct)
    (hroot : d.signingRoot ≠ none) (hdom : prefix4 (d.domain.getD []) = domProposer) (hs : d.slot ≤ maxI64)
    (hadv : ∀ e ∈ s.propLog, e.1 = acct.pubkey → e.2.slot < d.slot) :
    (signProp s c a d {} false).2.res = .succeeded := by
  have hok : PropOK ⟨d.domain.getD [], d.slot⟩ (lastSlot s.propLog acct.pubkey) := by
    refine ⟨hdom, hs, ?_⟩
    rcases lastSlot_cases s.propLog acct.pubkey with ⟨hv, _⟩ | ⟨e, he, hek, hv⟩
    · rw [hv]; omega
    · rw [hv]; have := hadv e he hek; simp only; omega
  have happ : (onPropose s.db acct.pubkey ⟨d.domain.getD [], d.slot⟩ {}).1 = .approved := by
    rw [onPropose_clean rfl rfl (h.prop acct.pubkey), if_pos hok]
  rw [signProp_eq, signSingle_ok hwf hpc, if_pos ⟨happ, rfl, hroot⟩]

/-- what an export determines: importing it into an empty store gives back, for that key, exactly the states
    the exporting store fetches (a field group that states "nothing" is not written, hence the proviso that an
    absent source means an absent target).  The exported values are in int64 range because
    they were fetched (Lemmas/Range). -/
theorem import_of_export (db : Db) (k : Bytes) (p : Protection) (hex : exportKey db k = some p)
    (hsrc : p.src = -1 → p.tgt = -1) :
    fetchAtt (importKey [] k p) k false = fetchAtt db k false ∧
    fetchProp (importKey [] k p) k false = fetchProp db k false := by
  obtain ⟨ha, hp⟩ := exportKey_some hex
  constructor
  · by_cases h1 : p.src = -1
    · rw [fetchAtt_importKey_skipped (.inr h1), ha, h1, hsrc h1]; rfl
    · rw [fetchAtt_importKey_written h1 (fetchAtt_inI64 ha).1 (fetchAtt_inI64 ha).2, ha]
  · by_cases h0 : p.slot = -1
    · rw [fetchProp_importKey_skipped (.inr h0), hp, h0]; rfl
    · rw [fetchProp_importKey_written h0 (fetchProp_inI64 hp), hp]

end Dirk
