/-
  Dirk.Lemmas.ShortRules — the batch entry points from the ruler on, when the ruler answers for every request
  (`signAtts`, `multisign`) and when it answers for the first `k` only (`signAttsShort`, `multisignShort` of
  Model/ShortRules.lean).

  `Ruled`: what the two outcomes of one request look like side by side: refused before the ruler, the same way; or the
  signer walks `outs`, the positions the ruler answered for, all of them or the first `k`, and pads with UNKNOWN.
  `signAtts_ruled`, `multisign_ruled`: the two entry points are of that form.  `Ruled.unruled`, `Ruled.prefix`: what
  follows for a cut `k`; the uncut functions are the case `k = n` (Props/C06.lean).
-/
import Dirk.Lemmas.Calls
import Dirk.Model.ShortRules

namespace Dirk

theorem signAttsShort_eq (s : Inst) (c : String) (items : List (Addr × AttData)) (f : Faults) (sf : List Nat)
    (k : Nat) : signAttsShort s c items f sf k = signBatch AttData.wellFormed s c opAttest items f.lockStateFail
      (padUnknown items.length ((items.take k).map (fun _ => ⟨.failed, none⟩))) (attestKeyedShort s · f sf k) := rfl

theorem multisignShort_eq (s : Inst) (c ip : String) (items : List (Addr × SignData)) (sf : List Nat) (lf : Bool)
    (k : Nat) : multisignShort s c ip items sf lf k = signBatch SignData.wellFormed s c opSign items lf
      (padUnknown items.length ((items.take k).map (fun _ => ⟨.failed, none⟩))) (fun keyed =>
        ({ s with signLog := s.signLog ++ (signGenerics s.cfg.adminIPs ip sf 0 (keyed.take k)).filterMap (·.2) },
         padUnknown keyed.length ((signGenerics s.cfg.adminIPs ip sf 0 (keyed.take k)).map (·.1)))) := rfl

theorem padUnknown_of_length {n : Nat} {ps : List Pos} (h : ps.length = n) : padUnknown n ps = ps := by
  simp [padUnknown, h]

theorem padUnknown_length {n : Nat} {ps : List Pos} (h : ps.length ≤ n) : (padUnknown n ps).length = n := by
  simp only [padUnknown, List.length_append, List.length_replicate]; omega

theorem padUnknown_closed {n : Nat} {ps : List Pos} (h : ∀ p ∈ ps, p.closed) :
    ∀ p ∈ padUnknown n ps, p.closed := by
  intro p hp
  unfold padUnknown at hp
  rcases List.mem_append.mp hp with hp | hp
  · exact h p hp
  · rw [List.eq_of_mem_replicate hp]; simp [Pos.closed]

theorem padUnknown_drop {n k : Nat} {ps : List Pos} (hl : ps.length ≤ k) :
    ∀ p ∈ (padUnknown n ps).drop k, p = ⟨.unknown, none⟩ := by
  intro p hp
  unfold padUnknown at hp
  rw [List.drop_append, List.drop_of_length_le hl, List.nil_append] at hp
  exact List.eq_of_mem_replicate (List.mem_of_mem_drop hp)

theorem padUnknown_take_take {n k : Nat} {ps : List Pos} (h : ps.length = n) :
    (padUnknown n (ps.take k)).take k = ps.take k := by
  unfold padUnknown
  rw [List.take_append, List.take_take, Nat.min_self, List.length_take]
  have : List.take (k - min k ps.length) (List.replicate (n - min k ps.length) (⟨.unknown, none⟩ : Pos)) = [] := by
    rcases Nat.le_total k ps.length with hk | hk
    · rw [Nat.min_eq_left hk, Nat.sub_self]; rfl
    · rw [Nat.min_eq_right hk, h, Nat.sub_self]; simp
  rw [this, List.append_nil]

/-- `full` is the outcome of a batch request of `n` entries on state `s`, `short k` its outcome when the ruler's verdict
    list is cut to `k` entries; `put rel` is the state after the rules with `rel` released. -/
def Ruled {γ : Type} (s : Inst) (n : Nat) (put : List γ → Inst) (full : Inst × List Pos)
    (short : Nat → Inst × List Pos) : Prop :=
  (∃ ps, ps.length = max 1 n ∧ (∀ p ∈ ps, p.root = none ∧ p.res ≠ .succeeded) ∧
    full = (s, ps) ∧ ∀ k, short k = (s, ps)) ∨
  (∃ outs : List (Pos × Option γ), outs.length = n ∧ n ≠ 0 ∧ (∀ o ∈ outs, o.1.closed) ∧
    full = (put (outs.filterMap (·.2)), outs.map (·.1)) ∧
    ∀ k, short k = (put ((outs.take k).filterMap (·.2)), padUnknown n ((outs.take k).map (·.1))))

section
variable {γ : Type} {s : Inst} {n : Nat} {put : List γ → Inst} {full : Inst × List Pos} {short : Nat → Inst × List Pos}

theorem Ruled.unruled (h : Ruled s n put full short) (k : Nat) :
    (∀ p ∈ (short k).2.drop k, p.root = none ∧ p.res ≠ .succeeded) ∧ (∀ p ∈ (short k).2, p.closed) ∧
    (short k).2.length = max 1 n ∧
    ∃ rel, rel.length ≤ k ∧ ((short k).1 = s ∧ rel = [] ∨ (short k).1 = put rel) := by
  rcases h with ⟨ps, hl, hu, -, hs⟩ | ⟨outs, hl, h0, hc, -, hs⟩
  · rw [hs k]
    exact ⟨fun p hp => hu p (List.mem_of_mem_drop hp), fun p hp => Pos.closed_of_unsigned (hu p hp), hl, [],
      Nat.zero_le k, .inl ⟨rfl, rfl⟩⟩
  · rw [hs k]
    have hk : ((outs.take k).map (·.1)).length ≤ k := by rw [List.length_map]; exact List.length_take_le k outs
    refine ⟨fun p hp => ?_, padUnknown_closed fun p hp => ?_, ?_, _, ?_, .inr rfl⟩
    · rw [padUnknown_drop hk p hp]; simp
    · obtain ⟨o, ho, rfl⟩ := List.mem_map.mp hp
      exact hc o (List.mem_of_mem_take ho)
    · rw [padUnknown_length (by rw [List.length_map, ← hl]; exact List.length_take_le' k outs)]; omega
    · exact Nat.le_trans (List.length_filterMap_le _ _) (List.length_take_le k outs)

theorem Ruled.prefix (h : Ruled s n put full short) (k : Nat) :
    (n ≤ k → short k = full) ∧ (short k).2.take k = full.2.take k ∧
    ((short k).1 = full.1 ∨ ∃ rel rel', (short k).1 = put rel ∧ full.1 = put rel') := by
  rcases h with ⟨ps, -, -, hf, hs⟩ | ⟨outs, hl, -, -, hf, hs⟩
  · rw [hs k, hf]; exact ⟨fun _ => rfl, rfl, .inl rfl⟩
  · rw [hs k, hf]
    refine ⟨fun hk => ?_, ?_, .inr ⟨_, _, rfl, rfl⟩⟩
    · rw [List.take_of_length_le (by omega), padUnknown_of_length (by simpa using hl)]
    · rw [List.map_take, padUnknown_take_take (by simpa using hl)]

end

/-- the uncut outcome is the case `k = n` -/
theorem Ruled.full {γ : Type} {s : Inst} {n : Nat} {put : List γ → Inst} {full : Inst × List Pos}
    {short : Nat → Inst × List Pos} (h : Ruled s n put full short) :
    (∀ p ∈ full.2, p.closed) ∧ full.2.length = max 1 n := by
  have := h.unruled n
  rw [(h.prefix n).1 (Nat.le_refl n)] at this
  exact ⟨this.2.1, this.2.2.1⟩

/-- the ruler's `n × FAILED` (duplicate keys, failing state) as ruled positions -/
theorem failed_closed {γ : Type} (n : Nat) :
    ∀ o ∈ List.replicate n ((⟨.failed, none⟩ : Pos), (none : Option γ)), o.1.closed := by
  intro o ho
  rw [List.eq_of_mem_replicate ho]; simp [Pos.closed]

theorem signAtts_ruled (s : Inst) (c : String) (items : List (Addr × AttData)) (f : Faults) (sf : List Nat) :
    ∃ db', Ruled s items.length (fun rel => { s with db := db', attLog := s.attLog ++ rel })
      (signAtts s c items f sf) (signAttsShort s c items f sf) := by
  rcases signBatch_cases AttData.wellFormed s c opAttest items f.lockStateFail with
    ⟨ps, hl, hu, h⟩ | ⟨h0, -, h⟩ | ⟨keyed, -, hl, h0, -, -, h⟩
  · exact ⟨s.db, .inl ⟨ps, hl, hu, (signAtts_eq ..).trans (h _ _), fun _ => (signAttsShort_eq ..).trans (h _ _)⟩⟩
  · refine ⟨s.db, .inr ⟨.replicate items.length (⟨.failed, none⟩, none), by simp, h0, failed_closed _, ?_, fun k => ?_⟩⟩
    · rw [signAtts_eq, h]; simp [List.map_const']
    · rw [signAttsShort_eq, h]; simp [List.map_const']
  · refine ⟨(rulesKeyed s.db keyed f).2, .inr ?_⟩
    cases hev : (rulesKeyed s.db keyed f).1 with
    | none =>
      refine ⟨.replicate items.length (⟨.failed, none⟩, none), by simp, h0, failed_closed _, ?_, fun k => ?_⟩
      · rw [signAtts_eq, h]; simp [attestKeyed, hev, finishKeyed, List.map_const', hl]
      · rw [signAttsShort_eq, h]; simp [attestKeyedShort, hev, finishKeyedShort, List.map_const', hl]
    | some evs =>
      refine ⟨signEvs sf 0 evs, by simpa [signEvs_eq_map, hl] using congrArg List.length (rulesKeyed_payload hev), h0, ?_, ?_, fun k => ?_⟩
      · simp only [signEvs_eq_map, List.mem_map]
        rintro _ ⟨e, -, rfl⟩
        exact signOne_closed ..
      · rw [signAtts_eq, h]; simp only [attestKeyed, hev, finishKeyed]
      · rw [signAttsShort_eq, h]
        simp only [attestKeyedShort, hev, finishKeyedShort, hl, signEvs_eq_map, zipIdx_take, List.map_take]

theorem multisign_ruled (s : Inst) (c ip : String) (items : List (Addr × SignData)) (sf : List Nat) (lf : Bool) :
    Ruled s items.length (fun rel => { s with signLog := s.signLog ++ rel })
      (multisign s c ip items sf lf) (multisignShort s c ip items sf lf) := by
  rcases signBatch_cases SignData.wellFormed s c opSign items lf with
    ⟨ps, hl, hu, h⟩ | ⟨h0, -, h⟩ | ⟨keyed, -, hl, h0, -, -, h⟩
  · exact .inl ⟨ps, hl, hu, (multisign_eq ..).trans (h _ _), fun _ => (multisignShort_eq ..).trans (h _ _)⟩
  · refine .inr ⟨.replicate items.length (⟨.failed, none⟩, none), by simp, h0, failed_closed _, ?_, fun k => ?_⟩
    · rw [multisign_eq, h]; simp [List.map_const']
    · rw [multisignShort_eq, h]; simp [List.map_const']
  · refine .inr ⟨signGenerics s.cfg.adminIPs ip sf 0 keyed, by simp [signGenerics_eq_map, hl], h0, ?_, ?_, fun k => ?_⟩
    · simp only [signGenerics_eq_map, List.mem_map]
      rintro _ ⟨e, -, rfl⟩
      exact signOne_closed ..
    · rw [multisign_eq, h]
    · rw [multisignShort_eq, h]
      simp only [hl, signGenerics_eq_map, zipIdx_take, List.map_take]

/-! ## on a concrete configuration

Three accounts, a client that may do everything, a generic request of three entries.  (The attestation twin is
not stated by `decide`: `AttData.signingRoot` asks for the length of an SSZ hash, which the kernel does not
evaluate in reasonable time; the driver exercises `signAttsShort` on every run.) -/

namespace ShortRulesEx

def acct (n : String) (b : UInt8) : Account := { wallet := "w", name := n, pubkey := List.replicate 48 b }
def cfg : Config :=
  { accounts := [acct "a" 7, acct "b" 8, acct "c" 9],
    access := [("c", [{ wallet := .star .any, account := .star .any, ops := ["All"] }])] }
def sdata : SignData := { data := some (List.replicate 32 1), domain := some (List.replicate 32 9) }
def batch : List (Addr × SignData) :=
  [({ name := "w/a" }, sdata), ({ name := "w/b" }, sdata), ({ name := "w/c" }, sdata)]
/-- the first account twice: the ruler refuses the batch as a whole -/
def dupBatch : List (Addr × SignData) :=
  [({ name := "w/a" }, sdata), ({ name := "w/b" }, sdata), ({ name := "w/a" }, sdata)]

/-- uncut: three signatures … -/
example : (multisign { cfg := cfg } "c" "" batch [] false).2.map (fun p => (p.res, p.root.isSome)) =
    [(.succeeded, true), (.succeeded, true), (.succeeded, true)] := by decide +kernel
/-- … a ruler that answers for one entry: one signature, the rest UNKNOWN without one, one entry released … -/
example : (multisignShort { cfg := cfg } "c" "" batch [] false 1).2.map (fun p => (p.res, p.root.isSome)) =
    [(.succeeded, true), (.unknown, false), (.unknown, false)] := by decide +kernel
example : (multisignShort { cfg := cfg } "c" "" batch [] false 1).1.signLog.length = 1 := by decide +kernel
/-- … and one that answers for none: nothing is signed -/
example : (multisignShort { cfg := cfg } "c" "" batch [] false 0).2 =
    [⟨.unknown, none⟩, ⟨.unknown, none⟩, ⟨.unknown, none⟩] := by decide +kernel
/-- the ruler's `n × FAILED` for duplicate keys is cut as well -/
example : (multisign { cfg := cfg } "c" "" dupBatch [] false).2 =
    [⟨.failed, none⟩, ⟨.failed, none⟩, ⟨.failed, none⟩] := by decide +kernel
example : (multisignShort { cfg := cfg } "c" "" dupBatch [] false 1).2 =
    [⟨.failed, none⟩, ⟨.unknown, none⟩, ⟨.unknown, none⟩] := by decide +kernel

end ShortRulesEx

end Dirk
