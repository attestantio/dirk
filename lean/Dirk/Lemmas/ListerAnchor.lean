/-
  Dirk.Lemmas.ListerAnchor — the lister anchors the account pattern as a STRING, without grouping
  (`listerAnchor`: `"^" ++ p ++ "$"` unless the anchors are already there).  On the AST the parser builds
  this puts `bol` in front of the FIRST top-level alternative and `eol` behind the LAST one
  (`ungroupedAnchor`).  That only widens the set of names found by the unanchored `Re.search`
  (Go `MatchString`): every whole-name match of the requested pattern is still found, so the listing is
  complete with respect to the whole-name specification `Spec.pathMatches` (C18, completeness side).

  What `ReParse.parse` returns (the first two, and `Acc1|Ab`, are `#guard`ed at the end):
    parse "A|B|C"   = alt (cat eps A) (alt (cat eps B) (cat eps C))              -- `alt` nests to the right,
    parse "^A|B|C$" = alt (cat (cat eps bol) A)                                   -- every branch is a left-nested
                          (alt (cat eps B) (cat (cat eps C) eol))                 -- `cat` chain starting from `eps`
    parse "Acc1"    = cat (cat (cat (cat eps A) c) c) 1
    parse "^Acc1$"  = cat (cat (cat (cat (cat (cat eps bol) A) c) c) 1) eol
    parse ""        = eps,   parse "^$" = cat (cat eps bol) eol
  i.e. `^` replaces the innermost `eps` of the first branch by `cat eps bol`, and `$` wraps the last branch
  `b` into `cat b eol`.

  Nothing is proved about the string-level parser: that `parse (listerAnchor p)` has this shape is the
  run-time hypothesis `ListerShapeOK` / `ListerShapeOKGen`.
-/
import Dirk.Lemmas.RegexAnchor
import Dirk.Model.ListerShape
import Dirk.Spec.Listing

namespace Dirk

/-- a requested path selects account `a` -/
def pathSelects (path : String) (a : Account) : Prop :=
  listerPath path = some (a.wallet, none) ∨ ∃ r, listerPath path = some (a.wallet, some r) ∧ Re.search r a.name = true

open Re

theorem ungroupedAnchor_alt (a b : Re) :
    ungroupedAnchor (.alt a b) = .alt (prependBol a) (anchorLast b) := rfl

/-- three alternatives: the middle one stays unanchored -/
theorem ungroupedAnchor_alt3 (a b c : Re) (hc : ∀ x y, c ≠ .alt x y) :
    ungroupedAnchor (.alt a (.alt b c)) = .alt (prependBol a) (.alt b (.cat c .eol)) := by
  rw [ungroupedAnchor_alt]
  cases c with
  | alt x y => exact absurd rfl (hc x y)
  | _ => rfl

/-- a single branch built by `pCat` (`eps`, or a `cat`: next theorem): both assertions go around it -/
theorem ungroupedAnchor_eps : ungroupedAnchor .eps = .cat (.cat .eps .bol) .eol := rfl

theorem ungroupedAnchor_cat (a b : Re) :
    ungroupedAnchor (.cat a b) = .cat (.cat (prependBol a) b) .eol := rfl

theorem matches_prependBol {r : Re} : ∀ {u v : List Char},
    Matches true r u v → Matches true (prependBol r) u v := by
  induction r with
  | eps => intro u v h; exact (matches_eps_cat.trans matches_bol).2 ⟨rfl, matches_eps.1 h⟩
  | cat a b iha _ =>
    intro u v h
    obtain ⟨u1, u2, rfl, h1, h2⟩ := matches_cat.1 h
    exact matches_cat.2 ⟨u1, u2, rfl, iha h1, h2⟩
  | _ => intro u v h; exact matches_eps_bol_cat.2 ⟨rfl, h⟩

theorem matches_anchorFirst {r : Re} {u v : List Char} (h : Matches true r u v) :
    Matches true (anchorFirst r) u v := by
  cases r with
  | alt a b => exact (matches_alt.1 h).elim (fun h => .altL (matches_prependBol h)) .altR
  | _ => exact matches_prependBol h

theorem matches_anchorLast {r : Re} : ∀ {s : Bool} {u : List Char},
    Matches s r u [] → Matches s (anchorLast r) u [] := by
  induction r with
  | alt a b _ ihb => intro s u h; exact (matches_alt.1 h).elim .altL fun h => .altR (ihb h)
  | _ => intro s u h; exact matches_cat_eol.2 ⟨rfl, h⟩

/-- **Ungrouped anchoring only widens.**  Whatever the requested pattern matches as a whole name is
    found by the search with the lister's (ungrouped) anchored pattern. -/
theorem fullMatch_imp_search_ungrouped (r : Re) (w : String) :
    Re.fullMatch r w = true → Re.search (ungroupedAnchor r) w = true :=
  search_of_fullMatch fun _ h => matches_anchorLast (matches_anchorFirst h)

/-- the AST of `Acc1|Ab` as the parser builds it -/
def exAlt : Re :=
  .alt (.cat (.cat (.cat (.cat .eps (.chr false 'A')) (.chr false 'c')) (.chr false 'c')) (.chr false '1'))
       (.cat (.cat .eps (.chr false 'A')) (.chr false 'b'))

/-- non-vacuity: the hypothesis holds on a real alternation, for the first and for the last branch -/
example : Re.fullMatch exAlt "Acc1" = true ∧ Re.fullMatch exAlt "Ab" = true := by decide

example : Re.search (ungroupedAnchor exAlt) "Ab" = true :=
  fullMatch_imp_search_ungrouped exAlt "Ab" (by decide)

/-- the converse is false (this is the over-listing of `^Acc1|Ab$`): `Acc1x` and `xAb` are found although
    they are no whole-name matches -/
example : Re.search (ungroupedAnchor exAlt) "Acc1x" = true ∧ Re.fullMatch exAlt "Acc1x" = false ∧
    Re.search (ungroupedAnchor exAlt) "xAb" = true ∧ Re.fullMatch exAlt "xAb" = false := by
  decide +kernel

/-! ## Patterns that carry their own anchors

`listerAnchor` leaves a leading `^` / trailing `$` alone, so for such patterns only one (or none) of the
two assertions is added.  `listerAnchorRe` mirrors the two string tests of `listerAnchor`. -/

theorem fullMatch_imp_search_listerAnchorRe (pat : String) (r : Re) (w : String) :
    Re.fullMatch r w = true → Re.search (listerAnchorRe pat r) w = true := by
  refine search_of_fullMatch fun u h => ?_
  have h1 : Matches true (if !pat.startsWith "^" then anchorFirst r else r) u [] := by
    split
    · exact matches_anchorFirst h
    · exact h
  unfold listerAnchorRe
  generalize (if !pat.startsWith "^" then "^" ++ pat else pat).endsWith "$" = e
  cases e
  · exact matches_anchorLast h1
  · exact h1

/-- Core of the corollaries: if the lister's compiled pattern is `f` of the requested pattern's AST and
    `f` only widens, a whole-name match is selected. -/
theorem lister_complete_of_widening (f : Re → Re)
    (hf : ∀ r n, Re.fullMatch r n = true → Re.search (f r) n = true)
    (path : String) (a : Account) (w pat : String)
    (hp : walletAndAccount path = some (w, pat))
    (hshape : pat ≠ "" → ReParse.parse (listerAnchor pat) = (ReParse.parse pat).map f)
    (hm : Spec.pathMatches path a = true) : pathSelects path a := by
  unfold Spec.pathMatches at hm
  rw [hp] at hm
  simp only [Bool.and_eq_true, Bool.or_eq_true, Bool.not_eq_true', beq_iff_eq] at hm
  obtain ⟨⟨rfl, hwne⟩, hpat⟩ := hm
  unfold pathSelects listerPath
  rw [hp]
  simp only [hwne, Bool.false_eq_true, if_false]
  cases hpe : pat.isEmpty with
  | true => exact .inl (if_pos rfl)
  | false =>
    rw [hpe] at hpat
    have hsh := hshape fun he => by rw [he] at hpe; cases hpe
    cases hr : ReParse.parse pat with
    | none => simp only [hr, Bool.false_eq_true, or_self] at hpat
    | some r =>
      simp only [hr, Bool.false_eq_true, false_or, Option.map_some] at hpat hsh
      exact .inr ⟨f r, by simp only [Bool.false_eq_true, if_false, hsh], hf r a.name hpat⟩

/-- **C18, completeness against the whole-name specification.**  An account whose name the requested
    path matches as a whole (`Spec.pathMatches`) is selected by the lister's path (`pathSelects`, hence
    listed by `C18_complete` if it exists and is accessible), provided the lister's string parses to the
    ungrouped-anchored shape.  `ListerShapeOK` is meant for patterns without own anchors. -/
theorem lister_complete_whole_name (path : String) (a : Account) (w pat : String)
    (hp : walletAndAccount path = some (w, pat)) (hshape : pat ≠ "" → ListerShapeOK pat)
    (hm : Spec.pathMatches path a = true) : pathSelects path a :=
  lister_complete_of_widening ungroupedAnchor fullMatch_imp_search_ungrouped path a w pat hp hshape hm

/-- The same with the shape hypothesis that also covers patterns starting with `^` / ending with `$`. -/
theorem lister_complete_whole_name_gen (path : String) (a : Account) (w pat : String)
    (hp : walletAndAccount path = some (w, pat)) (hshape : pat ≠ "" → ListerShapeOKGen pat)
    (hm : Spec.pathMatches path a = true) : pathSelects path a :=
  lister_complete_of_widening (listerAnchorRe pat) (fullMatch_imp_search_listerAnchorRe pat)
    path a w pat hp hshape hm

/-! ## Evaluated checks (compiler evaluation, nothing is proved from them)

The shape hypotheses hold on a range of patterns, and all hypotheses of `lister_complete_whole_name`
are satisfiable together on a non-trivial alternation. -/

#guard ReParse.parse "A|B|C" ==
  some (.alt (.cat .eps (.chr false 'A')) (.alt (.cat .eps (.chr false 'B')) (.cat .eps (.chr false 'C'))))
#guard ReParse.parse "^A|B|C$" ==
  some (.alt (.cat (.cat .eps .bol) (.chr false 'A'))
    (.alt (.cat .eps (.chr false 'B')) (.cat (.cat .eps (.chr false 'C')) .eol)))
#guard ReParse.parse "Acc1|Ab" == some exAlt

-- patterns without own anchors
#guard ["Acc1", "Acc1|Acc2", "A|B|C", "A|B|C|D", "(a|b)c", "Acc\\d+", "(?i)acc|b", "a?|b*", "x|", "|", ".*",
        "Validator [0-9]+|Other.*", "(?:a|b)|c(d|e)"].all
  (fun p => decide (ListerShapeOK p) && decide (ListerShapeOKGen p) && (ReParse.parse p).isSome)

-- patterns with own anchors: the general shape holds, the ungrouped one does not
#guard ["^Acc1$", "Acc1$", "^Acc1", "^A|B", "A|B$", "^A|B$", "A\\$", "^", "$"].all
  (fun p => decide (ListerShapeOKGen p) && (ReParse.parse p).isSome)
#guard ["Acc1$", "^Acc1", "^A|B", "A|B$"].all (fun p => !decide (ListerShapeOK p))

-- all hypotheses of `lister_complete_whole_name` together, on both outer alternatives
#guard walletAndAccount "W/Acc1|Ab" == some ("W", "Acc1|Ab")
#guard decide (ListerShapeOK "Acc1|Ab")
#guard Spec.pathMatches "W/Acc1|Ab" { wallet := "W", name := "Acc1", pubkey := [1] }
#guard Spec.pathMatches "W/Acc1|Ab" { wallet := "W", name := "Ab", pubkey := [1] }
-- and the over-listing the theorem does not exclude
#guard !Spec.pathMatches "W/Acc1|Ab" { wallet := "W", name := "xAb", pubkey := [1] }
#guard (listerPath "W/Acc1|Ab").any (fun x => x.2.any (fun r => Re.search r "xAb"))

end Dirk

#print axioms Dirk.fullMatch_imp_search_ungrouped
#print axioms Dirk.fullMatch_imp_search_listerAnchorRe
#print axioms Dirk.lister_complete_whole_name
#print axioms Dirk.lister_complete_whole_name_gen
