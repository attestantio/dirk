/-
  Dirk.Lemmas.DkgSuccess — a fault-free key generation succeeds on the message-level model
  (Dirk.Model.Dkg): prepare at every participant, execute at every participant in ANY order, commit
  at every participant; every reply is `ok`, after the executes every participant holds every
  participant's contribution exactly once, and after the commits every participant holds the account
  and no generation for it remains.  Core Lean only.

  Every step is read off the handlers' descriptions in Dirk.Lemmas.DkgLife (`onPrepare_spec`,
  `onContribute_spec`, `onCommit_spec`: when the reply is `ok`, and which entry of what can be observed is
  rewritten to what).  Prepare and commit touch one instance each (`runAll_local`).  The executes are followed
  through the log of contribution swaps done so far (`SwapInv`): what an instance holds is a function of that log,
  and the log of a whole execute phase is the same set of pairs whatever the order (`mem_rows`).
-/
import Dirk.Lemmas.DkgLife

namespace Dirk.Dkg

def runAll (f : Cluster → Nat → Cluster × Reply) : Cluster → List Nat → Cluster × List Reply
  | c, [] => (c, [])
  | c, i :: rest => ((runAll f (f c i).1 rest).1, (f c i).2 :: (runAll f (f c i).1 rest).2)

def prepareAll (c : Cluster) (caller : Nat) (acct : String) (t : Nat) (parts : List Nat) (l : List Nat) :
    Cluster × List Reply :=
  runAll (fun c i => onPrepare c i caller acct t parts) c l

def executeAll (c : Cluster) (caller : Nat) (acct : String) (l : List Nat) : Cluster × List Reply :=
  runAll (fun c i => onExecute c i caller acct) c l

def commitAll (c : Cluster) (caller : Nat) (acct : String) (l : List Nat) : Cluster × List Reply :=
  runAll (fun c i => onCommit c i caller acct) c l

theorem eraseDups_of_nodup : ∀ {l : List Nat}, l.Nodup → l.eraseDups = l
  | [], _ => rfl
  | a :: as, h => by
    have hd := List.nodup_cons.mp h
    have hf : as.filter (fun b => !b == a) = as := by
      apply List.filter_eq_self.mpr
      intro b hb
      have : b ≠ a := fun e => hd.1 (e ▸ hb)
      simp [this]
    rw [List.eraseDups_cons, hf, eraseDups_of_nodup hd.2]

theorem perm_insertAsc (x : Nat) (l : List Nat) : (insertAsc x l).Perm (x :: l) := by
  fun_induction insertAsc x l with
  | case1 => exact .refl _
  | case2 y ys h => exact .refl _
  | case3 y ys h ih => exact (ih.cons y).trans (.swap x y ys)

theorem perm_sortAsc (l : List Nat) : (sortAsc l).Perm l := by
  induction l with
  | nil => exact .refl _
  | cons y ys ih => exact (perm_insertAsc y _).trans (ih.cons y)

theorem perm_higher {parts : List Nat} (h : parts.Nodup) (i : Nat) :
    (higher parts i).Perm (parts.filter (fun j => j > i)) := by
  unfold higher
  rw [eraseDups_of_nodup (h.filter _)]
  exact perm_sortAsc _

theorem mem_higher {parts : List Nat} (h : parts.Nodup) (i k : Nat) : k ∈ higher parts i ↔ k ∈ parts ∧ i < k := by
  rw [(perm_higher h i).mem_iff, List.mem_filter]
  simp

/-- `f` answers `ok` at an instance that shows `Pre` (of whatever is observed, `obs`), leaves it showing `post`, and
    changes nothing else: so does running it at distinct instances -/
theorem runAll_local {α : Type} {obs : Cluster → Nat → α} {f : Cluster → Nat → Cluster × Reply} {c0 : Cluster}
    {Pre : Nat → α → Prop} {post : Nat → α}
    (step : ∀ c i, SameEnv c0 c → Pre i (obs c i) →
      (f c i).2 = .ok ∧ (∀ k, obs (f c i).1 k = if k = i then post i else obs c k) ∧ SameEnv c (f c i).1) :
    ∀ (l : List Nat) (c : Cluster), SameEnv c0 c → l.Nodup → (∀ i ∈ l, Pre i (obs c i)) →
      (runAll f c l).2 = List.replicate l.length .ok ∧
      (∀ k, obs (runAll f c l).1 k = if k ∈ l then post k else obs c k) ∧
      SameEnv c (runAll f c l).1
  | [], c, _, _, _ => ⟨rfl, fun _ => rfl, SameEnv.refl c⟩
  | i :: rest, c, he, hl, hpre => by
    have hd := List.nodup_cons.mp hl
    obtain ⟨hok, hv, he1⟩ := step c i he (hpre i List.mem_cons_self)
    obtain ⟨hok2, hv2, he2⟩ := runAll_local step rest (f c i).1 (he.trans he1) hd.2 (fun k hk => by
      rw [hv k, if_neg (fun e : k = i => hd.1 (e ▸ hk))]
      exact hpre k (List.mem_cons_of_mem _ hk))
    refine ⟨by rw [runAll, hok, hok2]; rfl, fun k => ?_, he1.trans he2⟩
    rw [runAll, hv2 k, hv k]
    by_cases hk : k = i
    · subst hk; simp [hd.1]
    · simp [hk]

/-- what the prepares and the commits are followed by: the generation read as active and whether the account is held -/
def look (acct : String) (c : Cluster) (k : Nat) : Option Session × Bool := (sessionOf c k acct, holdsAccount c k acct)

theorem Writes.look {c c' : Cluster} {i : Nat} {acct : String} {v : Option Session} {held : Bool}
    (h : Writes c c' i acct v held) (k : Nat) : look acct c' k = if k = i then (v, held) else look acct c k := by
  unfold Dkg.look
  rw [h.session, h.account]
  by_cases hk : k = i <;> simp [hk]

theorem prepare_step {c : Cluster} {i caller : Nat} {acct : String} (t : Nat) (parts : List Nat)
    (hp : senderId c caller ≠ 0) (hi : (getInst c i).isSome) (hv : look acct c i = (none, false)) :
    (onPrepare c i caller acct t parts).2 = .ok ∧
    (∀ k, look acct (onPrepare c i caller acct t parts).1 k =
      if k = i then (some { threshold := t, participants := parts, contributed := [i], started := c.now }, false)
      else look acct c k) ∧
    SameEnv c (onPrepare c i caller acct t parts).1 := by
  obtain ⟨hs, hh⟩ := Prod.mk.inj hv
  obtain ⟨hr, hw⟩ := onPrepare_spec c i caller acct t parts
  rw [if_neg hp, if_neg (by simpa [hs] using Option.isSome_iff_ne_none.mp hi)] at hr
  rw [if_pos hr, hh] at hw
  exact ⟨hr, hw.look, hw.toSameEnv⟩

theorem commit_step {c : Cluster} {i caller : Nat} {acct : String} {s : Session}
    (hp : senderId c caller ≠ 0) (hdw : distributedWallet acct = true) (hv : look acct c i = (some s, false))
    (hlen : s.contributed.length = s.participants.length) (hall : ∀ p ∈ s.participants, p ∈ s.contributed) :
    (onCommit c i caller acct).2 = .ok ∧
    (∀ k, (look acct (onCommit c i caller acct).1 k, (getInst (onCommit c i caller acct).1 k).map (·.sessions.lookup acct)) =
      if k = i then ((none, true), some none) else (look acct c k, (getInst c k).map (·.sessions.lookup acct))) ∧
    SameEnv c (onCommit c i caller acct).1 := by
  obtain ⟨hs, hh⟩ := Prod.mk.inj hv
  have hok := (onCommit_spec c i caller acct).1.mpr ⟨hp, s, hs, hlen, hall, hdw, hh⟩
  refine ⟨hok, fun k => ?_, (onCommit_ok_writes hok).toSameEnv⟩
  rw [(onCommit_ok_writes hok).look, onCommit_ok_lookup hok]
  split <;> rfl

/-- a swap between two participants with live generations that have not met: both store the other's contribution -/
theorem swap_ok {c : Cluster} {i j : Nat} {acct : String} {si s_i s_j : Session}
    (hpj : c.peers.contains j = true) (hsi : senderId c i ≠ 0)
    (hj : sessionOf c j acct = some s_j) (htj : s_j.threshold = si.threshold) (hmem : i ∈ s_j.participants)
    (hi : sessionOf c i acct = some s_i) (hne : i ≠ j) (hnc : s_i.contributed.contains j = false) :
    (swap c i j acct si).2 = true ∧
    ∀ k, sessionOf (swap c i j acct si).1 k acct =
      if k = i then some { s_i with contributed := s_i.contributed ++ [j] }
      else if k = j then some { s_j with contributed :=
        (if s_j.contributed.contains i then s_j.contributed else s_j.contributed ++ [i]) }
      else sessionOf c k acct := by
  -- `j` takes the contribution of `i` …
  obtain ⟨hr, hw⟩ := onContribute_spec c j i acct true si.threshold
  have hok := hr.mpr ⟨hsi, s_j, hj, rfl, htj.symm, hmem⟩
  simp only [hj, Option.map_some, hok, if_true] at hw
  obtain ⟨xj, hxj, _⟩ := sessionOf_some hj
  have htj' : ((active c xj acct).1.map (·.threshold)) = some si.threshold := by
    rw [← sessionOf_eq hxj, hj, ← htj]; rfl
  -- … and `i`, which still reads its own generation, that of `j`
  have hi1 : sessionOf (onContribute c j i acct true si.threshold).1 i acct = some s_i := by rw [hw.session, if_neg (fun e => hne e.1), hi]
  obtain ⟨xi, hxi, hli⟩ := sessionOf_some hi1
  have he : swap c i j acct si = (setInst (onContribute c j i acct true si.threshold).1
      (putSession xi acct { s_i with contributed := s_i.contributed ++ [j] }), true) := by
    unfold swap
    simp only [hpj, hxj, htj', hok, hxi, hli, hnc, Bool.not_true, Bool.false_eq_true, if_false, ne_eq, not_true_eq_false]
  have hw2 := writes_put hxi acct { s_i with contributed := s_i.contributed ++ [j] }
  have hlive := (active_fst_some (sessionOf_eq hxi acct ▸ hi1)).2
  rw [active_putSession, if_pos rfl, if_neg hlive] at hw2
  rw [he]
  refine ⟨rfl, fun k => ?_⟩
  rw [hw2.session, hw.session]
  by_cases hki : k = i
  · simp [hki]
  · by_cases hkj : k = j <;> simp [hki, hkj]

/-- `a` and `b` have swapped contributions: one of the swaps `P` (initiator, responder) was between them -/
def met (P : List (Nat × Nat)) (a b : Nat) : Prop := (a, b) ∈ P ∨ (b, a) ∈ P

theorem met_snoc (P : List (Nat × Nat)) (i j a b : Nat) :
    met (P ++ [(i, j)]) a b ↔ met P a b ∨ (a = i ∧ b = j) ∨ (a = j ∧ b = i) := by
  simp only [met, List.mem_append, List.mem_singleton, Prod.mk.injEq]
  rw [or_or_or_comm, and_comm (a := b = i)]

/-- every participant is a configured peer, reads a generation for `acct` with the expected parameters, does not
    hold the account yet, and holds — exactly once each — its own contribution and those of the participants it has
    met in the swaps `P` done so far -/
def SwapInv (acct : String) (t : Nat) (parts : List Nat) (c : Cluster) (P : List (Nat × Nat)) : Prop :=
  (∀ i ∈ parts, c.peers.contains i = true) ∧
  ∀ i ∈ parts, ∃ s, look acct c i = (some s, false) ∧ s.threshold = t ∧ s.participants = parts ∧
    s.contributed.Nodup ∧ ∀ k, k ∈ s.contributed ↔ (k = i ∨ met P i k)

variable {acct : String} {t : Nat} {parts : List Nat} {c : Cluster} {P : List (Nat × Nat)}

theorem nodup_snoc {l : List Nat} {a : Nat} (hl : l.Nodup) (ha : a ∉ l) : (l ++ [a]).Nodup :=
  (List.perm_append_singleton a l).nodup_iff.mpr (List.nodup_cons.mpr ⟨ha, hl⟩)

theorem swap_inv {i j : Nat} {si : Session} (h : SwapInv acct t parts c P) (hi : i ∈ parts) (hj : j ∈ parts)
    (hz : i ≠ 0) (hne : i ≠ j) (hP : ¬ met P i j) (hsi : si.threshold = t) :
    (swap c i j acct si).2 = true ∧ SwapInv acct t parts (swap c i j acct si).1 (P ++ [(i, j)]) := by
  obtain ⟨s_i, hvi, hti, hpi, hdi, hmi⟩ := h.2 i hi
  obtain ⟨s_j, hvj, htj, hpj, hdj, hmj⟩ := h.2 j hj
  have hnm : j ∉ s_i.contributed := fun hm => ((hmi j).mp hm).elim (fun e => hne e.symm) hP
  have hnm' : i ∉ s_j.contributed := fun hm => ((hmj i).mp hm).elim hne (fun e => hP e.symm)
  obtain ⟨hok, hv⟩ := swap_ok (si := si) (h.1 j hj) (senderId_ne_zero.mpr ⟨h.1 i hi, hz⟩)
    (Prod.mk.inj hvj).1 (htj.trans hsi.symm) (hpj ▸ hi) (Prod.mk.inj hvi).1 hne (by simpa using hnm)
  rw [if_neg (by simpa using hnm')] at hv
  have hq := swap_quiet c i j acct si
  have hl : ∀ k o, look acct c k = (o, false) → ∀ o', sessionOf (swap c i j acct si).1 k acct = o' →
      look acct (swap c i j acct si).1 k = (o', false) := fun k o hk o' ho' => by
    rw [look, ho', hq.account, (Prod.mk.inj hk).2]
  refine ⟨hok, fun k hk => by rw [hq.peers]; exact h.1 k hk, fun k hk => ?_⟩
  by_cases hki : k = i
  · subst hki
    refine ⟨_, hl k _ hvi _ ((hv k).trans (if_pos rfl)), hti, hpi, nodup_snoc hdi hnm, fun k' => ?_⟩
    simp only [List.mem_append, List.mem_singleton, hmi k', met_snoc, true_and, hne, false_and, or_false,
      or_assoc]
  · by_cases hkj : k = j
    · subst hkj
      refine ⟨_, hl k _ hvj _ ((hv k).trans ((if_neg hki).trans (if_pos rfl))), htj, hpj,
        nodup_snoc hdj hnm', fun k' => ?_⟩
      simp only [List.mem_append, List.mem_singleton, hmj k', met_snoc, true_and, hki, false_and, false_or,
        or_assoc]
    · obtain ⟨s, hvk, ht, hp, hd, hm⟩ := h.2 k hk
      refine ⟨s, hl k _ hvk _ ((hv k).trans ((if_neg hki).trans ((if_neg hkj).trans (Prod.mk.inj hvk).1))), ht, hp, hd,
        fun k' => ?_⟩
      simp only [hm k', met_snoc, hki, hkj, false_and, or_false]

theorem swaps_cons (acct : String) (i : Nat) (si : Session) (c : Cluster) (j : Nat) (rest : List Nat) :
    swaps acct i si c (j :: rest) =
      if (swap c i j acct si).2 = true then swaps acct i si (swap c i j acct si).1 rest
      else ((swap c i j acct si).1, false) := rfl

theorem swaps_inv {i : Nat} {si : Session} (hi : i ∈ parts) (hz : i ≠ 0) (hsi : si.threshold = t) :
    ∀ (L : List Nat) (c : Cluster) (P : List (Nat × Nat)), SwapInv acct t parts c P → L.Nodup →
      (∀ j ∈ L, j ∈ parts ∧ i ≠ j ∧ ¬ met P i j) →
      (swaps acct i si c L).2 = true ∧ SwapInv acct t parts (swaps acct i si c L).1 (P ++ L.map (i, ·))
  | [], c, P, h, _, _ => ⟨rfl, by rw [List.map_nil, List.append_nil]; exact h⟩
  | j :: rest, c, P, h, hnd, hL => by
    have hd := List.nodup_cons.mp hnd
    obtain ⟨hj, hne, hP⟩ := hL j List.mem_cons_self
    obtain ⟨hok, h1⟩ := swap_inv h hi hj hz hne hP hsi
    obtain ⟨hok2, h2⟩ := swaps_inv hi hz hsi rest _ _ h1 hd.2 (fun j' hj' => by
      obtain ⟨a, b, d⟩ := hL j' (List.mem_cons_of_mem _ hj')
      have : j' ≠ j := fun e => hd.1 (e ▸ hj')
      exact ⟨a, b, by simp [met_snoc, d, this, hne]⟩)
    have e : P ++ (j :: rest).map (i, ·) = P ++ [(i, j)] ++ rest.map (i, ·) := by simp
    rw [e, swaps_cons, if_pos hok]
    exact ⟨hok2, h2⟩

theorem execute_step {i caller : Nat} (h : SwapInv acct t parts c P) (hnd : parts.Nodup) (hi : i ∈ parts) (hz : i ≠ 0)
    (hp : senderId c caller ≠ 0) (hP : ∀ j ∈ parts, i < j → ¬ met P i j) :
    (onExecute c i caller acct).2 = .ok ∧
    SwapInv acct t parts (onExecute c i caller acct).1 (P ++ (higher parts i).map (i, ·)) := by
  obtain ⟨s, hv, ht, hps, hd, hm⟩ := h.2 i hi
  obtain ⟨x, hx, _⟩ := sessionOf_some (Prod.mk.inj hv).1
  have hc := writes_clean hx acct
  obtain ⟨hok, h1⟩ := swaps_inv (si := s) hi hz ht (higher parts i) (setInst c (active c x acct).2) P
    ⟨fun k hk => hc.peers ▸ h.1 k hk, fun k hk => by
      rw [look, hc.session_eq, hc.account_eq]; exact h.2 k hk⟩
    ((perm_higher hnd i).nodup_iff.mpr (hnd.filter _)) (fun j hj => by
      rw [mem_higher hnd] at hj
      exact ⟨hj.1, Nat.ne_of_lt hj.2, hP j hj.1 hj.2⟩)
  rw [onExecute_cases acct hp hx, ← sessionOf_eq hx, (Prod.mk.inj hv).1]
  simp only [hps]
  exact ⟨if_pos hok, h1⟩

/-- the swaps of the execute phases at the instances `D`: each with its higher participants -/
def rows (parts D : List Nat) : List (Nat × Nat) := D.flatMap fun i => (higher parts i).map (i, ·)

theorem mem_rows (hnd : parts.Nodup) (D : List Nat) (a b : Nat) :
    (a, b) ∈ rows parts D ↔ a ∈ D ∧ b ∈ parts ∧ a < b := by
  simp only [rows, List.mem_flatMap, List.mem_map, Prod.mk.injEq, mem_higher hnd]
  constructor
  · rintro ⟨i, hi, j, hj, rfl, rfl⟩
    exact ⟨hi, hj⟩
  · exact fun ⟨ha, hb⟩ => ⟨a, ha, b, hb, rfl, rfl⟩

theorem executeAll_inv {caller : Nat} (hnd : parts.Nodup) (hnz : ∀ i ∈ parts, i ≠ 0) (hc : caller ∈ parts) :
    ∀ (l : List Nat) (c : Cluster) (D : List Nat), SwapInv acct t parts c (rows parts D) → l.Nodup →
      (∀ i ∈ l, i ∈ parts ∧ i ∉ D) →
      (executeAll c caller acct l).2 = List.replicate l.length .ok ∧
      SwapInv acct t parts (executeAll c caller acct l).1 (rows parts (D ++ l))
  | [], c, D, h, _, _ => ⟨rfl, by rw [List.append_nil]; exact h⟩
  | i :: rest, c, D, h, hl, hL => by
    have hd := List.nodup_cons.mp hl
    obtain ⟨hi, hiD⟩ := hL i List.mem_cons_self
    obtain ⟨hok, h1⟩ := execute_step h hnd hi (hnz i hi) (senderId_ne_zero.mpr ⟨h.1 caller hc, hnz caller hc⟩)
      (fun j _ hij => by
        rw [met, mem_rows hnd, mem_rows hnd]
        exact fun e => e.elim (fun e => hiD e.1) (fun e => Nat.lt_asymm hij e.2.2))
    obtain ⟨hok2, h2⟩ := executeAll_inv hnd hnz hc rest _ (D ++ [i]) (by simpa [rows] using h1) hd.2
      (fun k hk => ⟨(hL k (List.mem_cons_of_mem _ hk)).1, by
        simpa [(hL k (List.mem_cons_of_mem _ hk)).2] using fun e : k = i => hd.1 (e ▸ hk)⟩)
    rw [List.append_assoc, List.singleton_append] at h2
    exact ⟨by rw [executeAll, runAll, hok]; exact congrArg _ hok2, h2⟩

theorem executed_complete {order : List Nat} (hnd : parts.Nodup) (horder : order.Perm parts) (h : SwapInv acct t parts c (rows parts order))
    {i : Nat} (hi : i ∈ parts) :
    ∃ s, look acct c i = (some s, false) ∧ s.participants = parts ∧
      (∀ k ∈ parts, k ∈ s.contributed) ∧ s.contributed.length = s.participants.length := by
  obtain ⟨s, hv, _, hp, hd, hm⟩ := h.2 i hi
  have hmem : ∀ k, k ∈ s.contributed ↔ k ∈ parts := by
    intro k
    rw [hm k, met, mem_rows hnd, mem_rows hnd, horder.mem_iff, horder.mem_iff]
    constructor
    · rintro (e | ⟨_, hk, _⟩ | ⟨hk, _, _⟩)
      · exact e ▸ hi
      · exact hk
      · exact hk
    · intro hk
      rcases Nat.lt_trichotomy k i with hlt | heq | hgt
      · exact Or.inr (Or.inr ⟨hk, hi, hlt⟩)
      · exact Or.inl heq
      · exact Or.inr (Or.inl ⟨hi, hk, hgt⟩)
  exact ⟨s, hv, hp, fun k hk => (hmem k).mpr hk,
    hp ▸ ((List.perm_ext_iff_of_nodup hd hnd).mpr hmem).length_eq⟩

/-- A fault-free generation succeeds.  `parts`: distinct non-zero ids of configured peers, each with an
    instance that neither holds `acct` nor has a generation for it; `acct` in a distributed wallet; the
    caller is one of them; any threshold; the prepares, the executes and the commits each in ANY order
    (`po`, `order`, `co`), no clock advance in between.  No assumption on the timeout is needed (the age of every
    generation is `c.now - c.now = 0`), nor on `parts.length`, nor on further instances in the cluster. -/
theorem generation_succeeds (c0 : Cluster) (parts po order co : List Nat) (acct : String) (t init : Nat)
    (hnd : parts.Nodup) (hnz : ∀ i ∈ parts, i ≠ 0) (hpeers : ∀ i ∈ parts, c0.peers.contains i = true)
    (hdw : distributedWallet acct = true)
    (hfresh : ∀ i ∈ parts, ∃ x, getInst c0 i = some x ∧ x.sessions.lookup acct = none ∧ acct ∉ x.accounts)
    (hinit : init ∈ parts) (hpo : po.Perm parts) (horder : order.Perm parts) (hco : co.Perm parts) :
    let p := prepareAll c0 init acct t parts po
    let e := executeAll p.1 init acct order
    let m := commitAll e.1 init acct co
    p.2 = List.replicate parts.length Reply.ok ∧
    e.2 = List.replicate parts.length Reply.ok ∧
    (∀ i ∈ parts, ∃ x s, getInst e.1 i = some x ∧ x.sessions.lookup acct = some s ∧
      sessionOf e.1 i acct = some s ∧ s.participants = parts ∧
      (∀ k ∈ parts, k ∈ s.contributed) ∧ s.contributed.length = s.participants.length) ∧
    m.2 = List.replicate parts.length Reply.ok ∧
    ∀ i ∈ parts, ∃ x, getInst m.1 i = some x ∧ acct ∈ x.accounts ∧ x.sessions.lookup acct = none := by
  intro p e m
  have hsid : ∀ {c}, SameEnv c0 c → senderId c init ≠ 0 := fun he =>
    senderId_ne_zero.mpr ⟨he.peers ▸ hpeers init hinit, hnz init hinit⟩
  obtain ⟨hpok, hpv, hpe⟩ := runAll_local (obs := look acct)
    (Pre := fun i v => (getInst c0 i).isSome ∧ v = (none, false))
    (post := fun i => (some { threshold := t, participants := parts, contributed := [i], started := c0.now }, false))
    (fun c i he hv => by rw [← he.now]; exact prepare_step t parts (hsid he) ((he.inst i).trans hv.1) hv.2) po c0 (SameEnv.refl c0)
    (hpo.nodup_iff.mpr hnd) (fun i hi => by
      obtain ⟨x, hx, hl, ha⟩ := hfresh i (hpo.mem_iff.mp hi)
      refine ⟨by rw [hx]; rfl, ?_⟩
      rw [look, sessionOf_eq hx, active_fst, hl, holdsAccount_eq hx, List.contains_eq_mem, decide_eq_false ha])
  have hinv1 : SwapInv acct t parts p.1 (rows parts []) :=
    ⟨fun i hi => hpe.peers ▸ hpeers i hi, fun i hi =>
      ⟨_, (hpv i).trans (if_pos (hpo.mem_iff.mpr hi)), rfl, rfl, by simp, fun k => by simp [rows, met]⟩⟩
  obtain ⟨heok, hinv2⟩ := executeAll_inv (caller := init) hnd hnz hinit order p.1 [] hinv1
    (horder.nodup_iff.mpr hnd) (fun i hi => ⟨horder.mem_iff.mp hi, List.not_mem_nil⟩)
  rw [List.nil_append] at hinv2
  have hcomplete := fun i hi => executed_complete (i := i) hnd horder hinv2 hi
  obtain ⟨hmok, hmv, _⟩ := runAll_local (c0 := e.1)
    (obs := fun c k => (look acct c k, (getInst c k).map (·.sessions.lookup acct)))
    (Pre := fun _ v => ∃ s, v.1 = (some s, false) ∧
      s.contributed.length = s.participants.length ∧ ∀ p ∈ s.participants, p ∈ s.contributed)
    (post := fun _ => ((none, true), some none))
    (fun c i he ⟨s, hv, hlen, hall⟩ =>
      commit_step (senderId_ne_zero.mpr ⟨he.peers ▸ hinv2.1 init hinit, hnz init hinit⟩) hdw hv hlen hall)
    co e.1 (SameEnv.refl _) (hco.nodup_iff.mpr hnd) (fun i hi => by
      obtain ⟨s, hv, hps, hall, hl⟩ := hcomplete i (hco.mem_iff.mp hi)
      exact ⟨s, hv, hl, hps ▸ hall⟩)
  refine ⟨hpo.length_eq ▸ hpok, horder.length_eq ▸ heok, fun i hi => ?_, hco.length_eq ▸ hmok, fun i hi => ?_⟩
  · obtain ⟨s, hv, hps, hall, hl⟩ := hcomplete i hi
    obtain ⟨x, hx, hlk⟩ := sessionOf_some (Prod.mk.inj hv).1
    exact ⟨x, s, hx, hlk, (Prod.mk.inj hv).1, hps, hall, hl⟩
  · have hv : (look acct m.1 i, (getInst m.1 i).map (·.sessions.lookup acct)) = ((none, true), some none) :=
      (hmv i).trans (if_pos (hco.mem_iff.mpr hi))
    cases hx : getInst m.1 i with
    | none => rw [hx] at hv; cases (show (none : Option (Option Session)) = some none from congrArg (·.2) hv)
    | some x =>
      have ha : x.accounts.contains acct = true := (holdsAccount_eq hx acct).symm.trans (congrArg (·.1.2) hv)
      rw [hx] at hv
      exact ⟨x, rfl, by simpa using ha, Option.some.inj (congrArg (·.2) hv)⟩

def freshCluster (parts peers : List Nat) (timeout now : Nat) : Cluster :=
  { insts := parts.map (fun i => { id := i }), peers := peers, timeout := timeout, now := now }

theorem getInst_freshCluster (parts peers : List Nat) (timeout now : Nat) {i : Nat} (hi : i ∈ parts) :
    getInst (freshCluster parts peers timeout now) i = some { id := i } := by
  unfold getInst freshCluster
  induction parts with
  | nil => cases hi
  | cons j rest ih =>
    simp only [List.map_cons, List.find?_cons]
    by_cases hj : j = i
    · subst hj; simp
    · have : (j == i) = false := by simp [hj]
      simp only [this]
      exact ih ((List.mem_cons.mp hi).resolve_left (Ne.symm hj))

theorem freshCluster_fresh (parts peers : List Nat) (timeout now : Nat) (acct : String) :
    ∀ i ∈ parts, ∃ x, getInst (freshCluster parts peers timeout now) i = some x ∧
      x.sessions.lookup acct = none ∧ acct ∉ x.accounts :=
  fun _ hi => ⟨_, getInst_freshCluster parts peers timeout now hi, rfl, by simp⟩

/-- three participants 1, 2, 3; executes in the order 2, 3, 1 -/
example :
    let c0 := freshCluster [1, 2, 3] [1, 2, 3] 600 0
    let p := prepareAll c0 1 "DW/k" 2 [1, 2, 3] [1, 2, 3]
    let e := executeAll p.1 1 "DW/k" [2, 3, 1]
    let m := commitAll e.1 1 "DW/k" [1, 2, 3]
    p.2 = [.ok, .ok, .ok] ∧ e.2 = [.ok, .ok, .ok] ∧
    (∀ i ∈ [1, 2, 3], ∃ x s, getInst e.1 i = some x ∧ x.sessions.lookup "DW/k" = some s ∧
      sessionOf e.1 i "DW/k" = some s ∧ s.participants = [1, 2, 3] ∧
      (∀ k ∈ [1, 2, 3], k ∈ s.contributed) ∧ s.contributed.length = s.participants.length) ∧
    m.2 = [.ok, .ok, .ok] ∧
    ∀ i ∈ [1, 2, 3], ∃ x, getInst m.1 i = some x ∧ "DW/k" ∈ x.accounts ∧ x.sessions.lookup "DW/k" = none :=
  generation_succeeds (freshCluster [1, 2, 3] [1, 2, 3] 600 0) [1, 2, 3] _ [2, 3, 1] _ "DW/k" 2 1 (by decide) (by decide)
    (by decide) (by simp [distributedWallet]) (freshCluster_fresh _ _ _ _ _) (by decide) (.refl _) (by decide) (.refl _)

end Dirk.Dkg
