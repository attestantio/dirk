/-
  Dirk.Lemmas.Signer — the two skeletons the signing entry points of the model are instances of.

  Every signing function of services/signer/standard walks the same path:
    check the request data (nil fields → DENIED) → `preCheck` (fetch account, permission, unlock; its result is returned
    as it is) → `ruler.RunRules` (DENIED / FAILED / UNKNOWN → that result, no signature) → the signing root (error →
    FAILED) → `signRoot` (error → FAILED) → SUCCEEDED with the signature.
  `signSingle` is that path for one request (signbeaconattestation.go, signbeaconproposal.go, signgeneric.go) with the
  parts in which the three differ left open; `signAtt`, `signProp`, `signGeneric` ARE instances of it, by `rfl`.
  `signBatch` is the part of the batch functions (signbeaconattestations.go, multisign.go) before `RunRules` — empty
  request, `checkAttestationsData`, `preCheck` of every entry, the ruler's duplicate-key refusal — with what comes
  after it left open; `signAtts`, `multisign` and the short-ruler variants of Model/ShortRules.lean are instances, by `rfl`
  (the latter two in Lemmas/ShortRules.lean).
  What an instance does is said once: `signSingle_pre` + `signSingle_ok` (before / after the pre-check succeeded, as
  equations), `signBatch_cases`, and `signOne_eq` for one position of the signing pass that follows the ruler
  (`signEvs`, `signGenerics` are maps of `signOne`).  Everything else here follows from those.
-/
import Dirk.Lemmas.PreCheck
import Dirk.Lemmas.FirstDup

namespace Dirk

/-- the fail-closed biconditional for one response position -/
def Pos.closed (p : Pos) : Prop := p.root ≠ none ↔ p.res = .succeeded

theorem Pos.closed_of_unsigned {p : Pos} (h : p.root = none ∧ p.res ≠ .succeeded) : p.closed := by
  simp [Pos.closed, h.1, h.2]

theorem verdictRes_ne_succeeded {v : Verdict} (h : v ≠ .approved) : verdictRes v ≠ .succeeded := by
  cases v <;> simp_all [verdictRes]

theorem preCheck_error_ne_succeeded {cfg : Config} {client : String} {a : Addr} {op : String} {lf : Bool} {r : Res} :
    preCheck cfg client a op lf = .error r → r ≠ .succeeded := by
  -- every error the pre-check returns is written out in its definition: DENIED or FAILED
  fun_cases preCheck cfg client a op lf <;> intro h <;> cases h <;> nofun

/-- `wf`: the data check; `rule`: the ruler's verdict and the store it leaves, for the resolved account; `root`: the
    signing root; `fail`: the signing call fails; `log`: the ghost log entry of a release. -/
def signSingle (wf : Bool) (s : Inst) (client : String) (a : Addr) (op : String) (lf : Bool)
    (rule : Account → Verdict × Db) (root : Option Bytes) (fail : Bool) (log : Inst → Account → Inst) : Inst × Pos :=
  if !wf then (s, ⟨.denied, none⟩) else
  match preCheck s.cfg client a op lf with
  | .error r => (s, ⟨r, none⟩)
  | .ok acct =>
    let (v, db') := rule acct
    let s' := { s with db := db' }
    match v with
    | .approved =>
      match root with
      | none => (s', ⟨.failed, none⟩)
      | some root =>
        if fail then (s', ⟨.failed, none⟩)
        else (log s' acct, ⟨.succeeded, some root⟩)
    | v => (s', ⟨verdictRes v, none⟩)

theorem signAtt_eq (s : Inst) (c : String) (a : Addr) (d : AttData) (f : Faults) (sf : Bool) :
    signAtt s c a d f sf = signSingle d.wellFormed s c a opAttest f.lockStateFail
      (fun acct => onAttest s.db acct.pubkey d.req f) d.signingRoot sf
      (fun s' acct => { s' with attLog := s'.attLog ++ [(acct.pubkey, d)] }) := rfl

theorem signProp_eq (s : Inst) (c : String) (a : Addr) (d : PropData) (f : Faults) (sf : Bool) :
    signProp s c a d f sf = signSingle d.wellFormed s c a opPropose f.lockStateFail
      (fun acct => onPropose s.db acct.pubkey { domain := d.domain.getD [], slot := d.slot } f) d.signingRoot sf
      (fun s' acct => { s' with propLog := s'.propLog ++ [(acct.pubkey, d)] }) := rfl

theorem signGeneric_eq (s : Inst) (c ip : String) (a : Addr) (d : SignData) (sf lf : Bool) :
    signGeneric s c ip a d sf lf = signSingle d.wellFormed s c a opSign lf
      (fun _ => (onSign s.cfg.adminIPs ip (d.domain.getD []), s.db)) d.signingRoot sf
      (fun s' acct => { s' with signLog := s'.signLog ++ [(acct.pubkey, d)] }) := rfl

/-- Before the rule is asked: refused by the data check or the pre-check — the same way whatever comes after,
    the state untouched — or resolved to an account. -/
theorem signSingle_pre (wf : Bool) (s : Inst) (client : String) (a : Addr) (op : String) (lf : Bool) :
    (∃ r, r ≠ .succeeded ∧ ∀ rule root fail log,
      signSingle wf s client a op lf rule root fail log = (s, ⟨r, none⟩)) ∨
    ∃ acct, wf = true ∧ preCheck s.cfg client a op lf = .ok acct := by
  cases wf with
  | false => exact .inl ⟨.denied, by simp, fun _ _ _ _ => rfl⟩
  | true =>
    cases hpc : preCheck s.cfg client a op lf with
    | error r =>
      exact .inl ⟨r, preCheck_error_ne_succeeded hpc, fun _ _ _ _ => by simp only [signSingle, hpc]; rfl⟩
    | ok acct => exact .inr ⟨acct, rfl, rfl⟩

theorem signSingle_error {wf : Bool} {s : Inst} {client : String} {a : Addr} {op : String} {lf : Bool}
    {rule : Account → Verdict × Db} {root : Option Bytes} {fail : Bool} {log : Inst → Account → Inst} {r : Res}
    (h : preCheck s.cfg client a op lf = .error r) :
    signSingle wf s client a op lf rule root fail log = (s, ⟨if wf then r else .denied, none⟩) := by
  unfold signSingle
  rw [h]
  cases wf <;> rfl

/-- After a successful pre-check, the whole outcome: the rule's store is kept; the request is released exactly
    when the rule approves, the signing root exists and the signing call works. -/
theorem signSingle_ok {wf : Bool} {s : Inst} {client : String} {a : Addr} {op : String} {lf : Bool} {acct : Account}
    (hwf : wf = true) (hpc : preCheck s.cfg client a op lf = .ok acct)
    (rule : Account → Verdict × Db) (root : Option Bytes) (fail : Bool) (log : Inst → Account → Inst) :
    signSingle wf s client a op lf rule root fail log =
      if (rule acct).1 = .approved ∧ fail = false ∧ root ≠ none
      then (log { s with db := (rule acct).2 } acct, ⟨.succeeded, root⟩)
      else ({ s with db := (rule acct).2 },
            ⟨if (rule acct).1 = .approved then .failed else verdictRes (rule acct).1, none⟩) := by
  simp only [signSingle, hwf, hpc]
  rcases rule acct with ⟨v, db'⟩
  cases v <;> cases root <;> cases fail <;> rfl

section
variable {wf : Bool} {s : Inst} {client : String} {a : Addr} {op : String} {lf : Bool}
  {rule : Account → Verdict × Db} {root : Option Bytes} {fail : Bool} {log : Inst → Account → Inst} {r : Inst × Pos}

/-- The two as one disjunction, for a user that only asks whether something was released: no signature, not
    SUCCEEDED, the state is `s` up to what the ruler stored; or every stage went well.
    (Use: `signSingle_cases (signAtt_eq s c a d f sf).symm`.) -/
theorem signSingle_cases (hr : signSingle wf s client a op lf rule root fail log = r) :
    (r.2.root = none ∧ r.2.res ≠ .succeeded ∧
      (r.1 = s ∨ ∃ acct, preCheck s.cfg client a op lf = .ok acct ∧ r.1 = { s with db := (rule acct).2 })) ∨
    (∃ acct rt, wf = true ∧ preCheck s.cfg client a op lf = .ok acct ∧ (rule acct).1 = .approved ∧
      root = some rt ∧ fail = false ∧ r = (log { s with db := (rule acct).2 } acct, ⟨.succeeded, some rt⟩)) := by
  rcases signSingle_pre wf s client a op lf with ⟨r0, hr0, h⟩ | ⟨acct, hwf, hpc⟩
  · rw [h] at hr; subst hr; exact .inl ⟨rfl, hr0, .inl rfl⟩
  · rw [signSingle_ok hwf hpc] at hr
    split at hr <;> subst hr
    · rename_i h
      obtain ⟨rt, hrt⟩ := Option.ne_none_iff_exists'.mp h.2.2
      exact .inr ⟨acct, rt, hwf, hpc, h.1, hrt, h.2.1, by rw [hrt]⟩
    · refine .inl ⟨rfl, ?_, .inr ⟨acct, hpc, rfl⟩⟩
      split
      · simp
      · exact verdictRes_ne_succeeded ‹_›

theorem signSingle_refused {r0 : Res} (h : preCheck s.cfg client a op lf = .error r0)
    (hr : signSingle wf s client a op lf rule root fail log = r) :
    r.2.root = none ∧ r.2.res ≠ .succeeded ∧ r.1 = s := by
  rcases signSingle_pre wf s client a op lf with ⟨_, hne, h'⟩ | ⟨_, _, hpc⟩
  · rw [← hr, h']; exact ⟨rfl, hne, rfl⟩
  · rw [h] at hpc; cases hpc

/-- no signature when the signing call fails or something (`P`) keeps the rule from approving -/
theorem signSingle_fault (hr : signSingle wf s client a op lf rule root fail log = r) {P : Prop}
    (h : P ∨ fail = true) (hP : P → ∀ acct, (rule acct).1 ≠ .approved) : r.2.root = none := by
  rcases signSingle_cases hr with ⟨h1, -⟩ | ⟨acct, _, -, -, hv, -, hf, -⟩
  · exact h1
  · rcases h with h | h
    · exact absurd hv (hP h acct)
    · rw [hf] at h; cases h

theorem signSingle_closed (hr : signSingle wf s client a op lf rule root fail log = r) : r.2.closed := by
  rcases signSingle_cases hr with ⟨h1, h2, -⟩ | ⟨_, _, -, -, -, -, -, rfl⟩
  · exact Pos.closed_of_unsigned ⟨h1, h2⟩
  · simp [Pos.closed]

end

/-- `wf`: the data check of one entry; `dup`: the response when the ruler refuses the batch for a duplicate key;
    `ruler`: the rules and the signing pass on the resolved batch. -/
def signBatch {α : Type} (wf : α → Bool) (s : Inst) (client op : String) (items : List (Addr × α)) (lf : Bool)
    (dup : List Pos) (ruler : List (Bytes × α) → Inst × List Pos) : Inst × List Pos :=
  let n := items.length
  if n = 0 then (s, [⟨.denied, none⟩]) else
  match (items.map (·.2)).findIdx? (fun d => !wf d) with
  | some i => (s, (List.range n).map (fun j => if j = i then ⟨.denied, none⟩ else ⟨.unknown, none⟩))
  | none =>
    let pcs := preCheckAll s.cfg client op items lf
    if pcs.any isErr then (s, preCheckPositions pcs)
    else
      let keyed := okItems pcs
      match firstDup [] 0 (keyed.map (·.1)) with
      | some _ => (s, dup)
      | none => ruler keyed

theorem signAtts_eq (s : Inst) (c : String) (items : List (Addr × AttData)) (f : Faults) (sf : List Nat) :
    signAtts s c items f sf = signBatch AttData.wellFormed s c opAttest items f.lockStateFail
      (items.map (fun _ => ⟨.failed, none⟩)) (attestKeyed s · f sf) := rfl

theorem multisign_eq (s : Inst) (c ip : String) (items : List (Addr × SignData)) (sf : List Nat) (lf : Bool) :
    multisign s c ip items sf lf = signBatch SignData.wellFormed s c opSign items lf
      (items.map (fun _ => ⟨.failed, none⟩)) (fun keyed =>
        ({ s with signLog := s.signLog ++ (signGenerics s.cfg.adminIPs ip sf 0 keyed).filterMap (·.2) },
         (signGenerics s.cfg.adminIPs ip sf 0 keyed).map (·.1))) := rfl

theorem okItems_length {α : Type} (pcs : List (Except Res α)) (h : pcs.any isErr = false) :
    (okItems pcs).length = pcs.length := by
  induction pcs with
  | nil => rfl
  | cons p rest ih =>
    cases p with
    | error r => simp [isErr] at h
    | ok a => simpa [okItems] using ih (by simpa [isErr] using h)

theorem preCheckPositions_unsigned {α : Type} (cfg : Config) (client op : String) (items : List (Addr × α))
    (lf : Bool) : ∀ p ∈ preCheckPositions (preCheckAll cfg client op items lf), p.root = none ∧ p.res ≠ .succeeded := by
  simp only [preCheckPositions, preCheckAll, List.map_map, List.mem_map, Function.comp_apply]
  rintro _ ⟨it, -, rfl⟩
  cases hpc : preCheck cfg client it.1 op lf with
  | error r => exact ⟨rfl, preCheck_error_ne_succeeded hpc⟩
  | ok a => simp

/-- a resolved position of a batch is a request position with the public key of the account it resolved to -/
theorem mem_okItems_preCheckAll {α : Type} {cfg : Config} {c op : String} {items : List (Addr × α)} {lf : Bool}
    {it : Bytes × α} (h : it ∈ okItems (preCheckAll cfg c op items lf)) :
    ∃ x ∈ items, ∃ acct, preCheck cfg c x.1 op lf = .ok acct ∧ it = (acct.pubkey, x.2) := by
  simp only [okItems, preCheckAll, List.mem_filterMap, List.mem_map] at h
  obtain ⟨p, ⟨x, hx, rfl⟩, hp⟩ := h
  cases hpc : preCheck cfg c x.1 op lf with
  | error r => simp [hpc] at hp
  | ok acct => exact ⟨x, hx, acct, hpc, by simpa [hpc] using hp.symm⟩

/-- A batch is refused before the ruler is asked — in the same way whatever `dup` and `ruler` are, nothing signed, the
    state untouched —, or the ruler refuses it as a whole for a duplicate key, or the ruler gets the resolved batch
    `keyed`.  The last two only without the lock-state fault.  `∀ dup ruler` inside each case: two instances on the
    same request (`signAtts` and `signAttsShort`) are in the same case, with the same `ps` / `keyed`. -/
theorem signBatch_cases {α : Type} (wf : α → Bool) (s : Inst) (client op : String) (items : List (Addr × α))
    (lf : Bool) :
    (∃ ps, ps.length = max 1 items.length ∧ (∀ p ∈ ps, p.root = none ∧ p.res ≠ .succeeded) ∧
      ∀ dup ruler, signBatch wf s client op items lf dup ruler = (s, ps)) ∨
    (items.length ≠ 0 ∧ lf = false ∧ ∀ dup ruler, signBatch wf s client op items lf dup ruler = (s, dup)) ∨
    (∃ keyed : List (Bytes × α), keyed = okItems (preCheckAll s.cfg client op items) ∧
      keyed.length = items.length ∧ items.length ≠ 0 ∧ lf = false ∧ (keyed.map (·.1)).Nodup ∧
      ∀ dup ruler, signBatch wf s client op items lf dup ruler = ruler keyed) := by
  by_cases h0 : items.length = 0
  · exact .inl ⟨[⟨.denied, none⟩], by rw [h0]; rfl, by simp, fun _ _ => by simp only [signBatch, if_pos h0]⟩
  rw [show max 1 items.length = items.length by omega]
  cases hm : (items.map (·.2)).findIdx? (fun d => !wf d) with
  | some i =>
    refine .inl ⟨(List.range items.length).map (fun j => if j = i then ⟨.denied, none⟩ else ⟨.unknown, none⟩),
      by rw [List.length_map, List.length_range], ?_, fun _ _ => by simp only [signBatch, if_neg h0, hm]⟩
    intro p hp
    obtain ⟨j, _, rfl⟩ := List.mem_map.mp hp
    split <;> simp
  | none =>
    by_cases hne : (preCheckAll s.cfg client op items lf).any isErr = true
    · exact .inl ⟨preCheckPositions (preCheckAll s.cfg client op items lf), by rw [preCheckPositions, List.length_map, preCheckAll_length],
        preCheckPositions_unsigned _ _ _ _ _, fun _ _ => by simp only [signBatch, if_neg h0, hm, if_pos hne]⟩
    · cases preCheckAll_not_any_isErr (fun h => h0 (by rw [h]; rfl)) hne
      cases hd : firstDup [] 0 ((okItems (preCheckAll s.cfg client op items false)).map (·.1)) with
      | some _ => exact .inr (.inl ⟨h0, rfl, fun _ _ => by simp only [signBatch, if_neg h0, hm, if_neg hne, hd]⟩)
      | none =>
        refine .inr (.inr ⟨_, rfl, ?_, h0, rfl, firstDup_nodup hd,
          fun _ _ => by simp only [signBatch, if_neg h0, hm, if_neg hne, hd]⟩)
        rw [okItems_length _ (by simpa using hne), preCheckAll_length]

theorem signBatch_lock_unsigned {α : Type} (wf : α → Bool) (s : Inst) (client op : String)
    (items : List (Addr × α)) (dup : List Pos) (ruler : List (Bytes × α) → Inst × List Pos) :
    (∀ p ∈ (signBatch wf s client op items true dup ruler).2, p.root = none ∧ p.res ≠ .succeeded) ∧
    (signBatch wf s client op items true dup ruler).1 = s := by
  rcases signBatch_cases wf s client op items true with ⟨ps, -, hu, h⟩ | ⟨-, hlf, -⟩ | ⟨_, -, -, -, hlf, -⟩
  · rw [h]; exact ⟨hu, rfl⟩
  · cases hlf
  · cases hlf

/-- the body of the final loop of `SignBeaconAttestations` / `Multisign` for a position with verdict `v`: the
    response position and, if a signature is released, the entry `e` for the ghost log -/
def signOne {γ : Type} (v : Verdict) (root : Option Bytes) (fail : Bool) (e : γ) : Pos × Option γ :=
  match v with
  | .approved =>
    match root with
    | none => (⟨.failed, none⟩, none)
    | some root => if fail then (⟨.failed, none⟩, none) else (⟨.succeeded, some root⟩, some e)
  | v => (⟨verdictRes v, none⟩, none)

/-- released exactly when the ruler approved, the root exists and signing works (the condition of `signSingle_ok`) -/
theorem signOne_eq {γ : Type} (v : Verdict) (root : Option Bytes) (fail : Bool) (e : γ) :
    signOne v root fail e =
      if v = .approved ∧ fail = false ∧ root ≠ none then (⟨.succeeded, root⟩, some e)
      else (⟨if v = .approved then .failed else verdictRes v, none⟩, none) := by
  cases v <;> cases root <;> cases fail <;> rfl

theorem signOne_closed {γ : Type} (v : Verdict) (root : Option Bytes) (fail : Bool) (e : γ) :
    (signOne v root fail e).1.closed := by
  rw [signOne_eq]
  split
  · rename_i h; simp [Pos.closed, h.2.2]
  · refine Pos.closed_of_unsigned ⟨rfl, ?_⟩
    split
    · simp
    · exact verdictRes_ne_succeeded ‹_›

theorem signEvs_eq_map (sf : List Nat) (evs : List (Bytes × AttData × Verdict)) (i : Nat) :
    signEvs sf i evs =
      (evs.zipIdx i).map (fun e => signOne e.1.2.2 e.1.2.1.signingRoot (sf.contains e.2) (e.1.1, e.1.2.1)) := by
  induction evs generalizing i with
  | nil => rfl
  | cons e rest ih => simp only [signEvs, List.zipIdx_cons, List.map_cons, ih]; rfl

theorem signGenerics_eq_map (adminIPs : List String) (ip : String) (sf : List Nat) (keyed : List (Bytes × SignData))
    (i : Nat) : signGenerics adminIPs ip sf i keyed =
      (keyed.zipIdx i).map (fun e =>
        signOne (onSign adminIPs ip (e.1.2.domain.getD [])) e.1.2.signingRoot (sf.contains e.2) e.1) := by
  induction keyed generalizing i with
  | nil => rfl
  | cons e rest ih => simp only [signGenerics, List.zipIdx_cons, List.map_cons, ih]; rfl

theorem mem_zip_map_zipIdx {α β : Type} {l : List α} {F : α × Nat → β} {i : Nat} {p : α × β}
    (h : p ∈ l.zip ((l.zipIdx i).map F)) : ∃ j, p.2 = F (p.1, j) := by
  obtain ⟨j, hj⟩ := List.mem_iff_getElem?.mp h
  obtain ⟨h1, h2⟩ := List.getElem?_zip_eq_some.mp hj
  simp only [List.getElem?_map, List.getElem?_zipIdx, h1, Option.map_some, Option.some.injEq] at h2
  exact ⟨_, h2.symm⟩

theorem zipIdx_take {α : Type} (l : List α) (k i : Nat) : (l.take k).zipIdx i = (l.zipIdx i).take k := by
  induction l generalizing k i with
  | nil => simp
  | cons a l ih => cases k <;> simp [ih]

end Dirk
