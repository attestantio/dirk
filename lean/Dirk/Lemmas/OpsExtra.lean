/-
  Dirk.Lemmas.OpsExtra — the operations of an instance that do not sign: the live rules-level import
  (`Op.importRec`), the import command (`Op.importCmd`), the account manager's lock / unlock
  (`Op.setUnlockable`) and wallet lock / unlock.

  * configuration operations leave the store and the released logs alone;
  * `importRec` changes the store only, and OVERWRITES: it keeps `AttInv` / `PropInv` exactly when the
    imported record is not below what was released for the key (`ImportCovers`, Dirk.Model.Instance);
  * `importCmd` keeps every coverage fact, whatever the file;
  * histories without the raw import are safe (`safeHist_of_noRawImport`).
-/
import Dirk.Lemmas.Coverage
import Dirk.Lemmas.ImportProofs

namespace Dirk

theorem step_setUnlockable_frame (s : Inst) (w n : String) (b : Bool) :
    (step s (.setUnlockable w n b)).1.db = s.db ∧ (step s (.setUnlockable w n b)).1.attLog = s.attLog ∧
    (step s (.setUnlockable w n b)).1.propLog = s.propLog ∧
    (step s (.setUnlockable w n b)).1.signLog = s.signLog :=
  ⟨rfl, rfl, rfl, rfl⟩

theorem step_lockWallet (s : Inst) (c w : String) : (step s (.lockWallet c w)).1 = s := rfl
theorem step_unlockWallet (s : Inst) (c w : String) : (step s (.unlockWallet c w)).1 = s := rfl

theorem step_importRec (s : Inst) (k : Bytes) (r : Protection) :
    (step s (.importRec k r)).1 = { s with db := importKey s.db (toBytes48 k) r } := rfl

theorem step_importRec_frame (s : Inst) (k : Bytes) (r : Protection) :
    (step s (.importRec k r)).1.cfg = s.cfg ∧ (step s (.importRec k r)).1.attLog = s.attLog ∧
    (step s (.importRec k r)).1.propLog = s.propLog ∧ (step s (.importRec k r)).1.signLog = s.signLog :=
  ⟨rfl, rfl, rfl, rfl⟩

theorem importKey_attInv {s : Inst} (h : AttInv s) (k : Bytes) (r : Protection)
    (hc : ImportCovers s k r) : AttInv { s with db := importKey s.db k r } := by
  refine ⟨fun e he => ?_, h.mono⟩
  by_cases hw : e.1 ≠ k ∨ r.src = -1
  · exact (h.covered e he).congr (fetchAtt_importKey_skipped hw)
  · obtain ⟨hk, hsrc⟩ := not_or.mp hw
    obtain ⟨hi1, hi2, hb1, hb2⟩ := hc.1 hsrc e he (Decidable.not_not.mp hk)
    exact Decidable.not_not.mp hk ▸ .of_fetch (fetchAtt_importKey_written hsrc hi1 hi2) hb1 hb2

theorem importKey_propInv {s : Inst} (h : PropInv s) (k : Bytes) (r : Protection)
    (hc : ImportCovers s k r) : PropInv { s with db := importKey s.db k r } := by
  refine ⟨fun e he => ?_, h.mono⟩
  by_cases hw : e.1 ≠ k ∨ r.slot = -1
  · exact (h.covered e he).congr (fetchProp_importKey_skipped hw)
  · obtain ⟨hk, hsl⟩ := not_or.mp hw
    obtain ⟨hi, hb⟩ := hc.2 hsl e he (Decidable.not_not.mp hk)
    exact Decidable.not_not.mp hk ▸ .of_fetch (fetchProp_importKey_written hsl hi) hb

/-! ## the import command (`Op.importCmd`: stop, `dirk --import-slashing-protection`, start)

The command merges the file raise-only with the existing records before the rules-level write (C10), so — unlike the raw
`Op.importRec` — it lowers neither record of any key (`import_fetch_ge`) and keeps every coverage fact, with no condition
on the file. -/

theorem importFile_covers {gvr : String} {db db' : Db} {f : IFile} (h : importFile gvr db f = .ok db')
    (k : Bytes) (s t : Nat) (hc : Covers db k s t) : Covers db' k s t := by
  obtain ⟨st, h0, _, _, hs, ht⟩ := hc
  obtain ⟨st', h1, h2, h3⟩ := (import_fetch_ge h k).1 st h0
  exact .of_fetch h1 (Int.le_trans hs h2) (Int.le_trans ht h3)

theorem importFile_pcovers {gvr : String} {db db' : Db} {f : IFile} (h : importFile gvr db f = .ok db')
    (k : Bytes) (n : Nat) (hc : PCovers db k n) : PCovers db' k n := by
  obtain ⟨v0, h0, _, hn⟩ := hc
  obtain ⟨v', h1, h2⟩ := (import_fetch_ge h k).2 v0 h0
  exact .of_fetch h1 (Int.le_trans hn h2)

/-- a sufficient condition stated on the store instead of the logs ("never lowers"): the import supplies
    int64 values that are, field group by field group, at least the values stored for the key.  Together
    with the invariants it implies `ImportCovers`. -/
def ImportRaises (db : Db) (k : Bytes) (r : Protection) : Prop :=
  (r.src ≠ -1 → InI64 r.src ∧ InI64 r.tgt ∧
      ∀ st, fetchAtt db k false = some st → st.src ≤ r.src ∧ st.tgt ≤ r.tgt) ∧
  (r.slot ≠ -1 → InI64 r.slot ∧ ∀ st, fetchProp db k false = some st → st ≤ r.slot)

theorem importCovers_of_raises {s : Inst} (ha : AttInv s) (hp : PropInv s) (k : Bytes) (r : Protection)
    (h : ImportRaises s.db k r) : ImportCovers s k r := by
  constructor
  · intro hsrc e he hk
    obtain ⟨hi1, hi2, hb⟩ := h.1 hsrc
    obtain ⟨st, h0, _, _, h1, h2⟩ := ha.covered e he
    have := hb st (hk ▸ h0)
    exact ⟨hi1, hi2, Int.le_trans h1 this.1, Int.le_trans h2 this.2⟩
  · intro hsl e he hk
    obtain ⟨hi, hb⟩ := h.2 hsl
    obtain ⟨st, h0, _, h1⟩ := hp.covered e he
    exact ⟨hi, Int.le_trans h1 (hb st (hk ▸ h0))⟩

theorem safeAt_of_not_raw {s : Inst} {op : Op} (h : op.isRawImport = false) : op.safeAt s := by
  cases op <;> simp [Op.isRawImport] at h <;> trivial

theorem safeHist_of_noRawImport : ∀ (ops : List Op) (s : Inst), NoRawImport ops → SafeHist s ops
  | [], _, _ => trivial
  | op :: rest, _, h =>
    ⟨safeAt_of_not_raw (h op (by simp)), safeHist_of_noRawImport rest _ fun o ho => h o (by simp [ho])⟩

theorem safeHist_append : ∀ (ops ops' : List Op) (s : Inst),
    SafeHist s (ops ++ ops') ↔ SafeHist s ops ∧ SafeHist (run s ops) ops' := by
  intro ops
  induction ops with
  | nil => intro ops' s; simp [SafeHist, run]
  | cons op rest ih =>
    intro ops' s
    simp only [List.cons_append, SafeHist, run, ih, and_assoc]

end Dirk
