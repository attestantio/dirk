/-
  Dirk.Lemmas.SszBinding — signing roots bind the data, up to an explicit SHA-256 collision.

  The hash-tree-roots of well-formed attestation data / block headers, and the signing root
  `h2 root domain`, are injective functions of their inputs unless two different byte strings with
  the same digest *in the model's own SHA-256* can be exhibited.  The collision is an explicit
  disjunct (a witness), not an axiom.  The only fact about SHA-256 that is used is that its digest
  is 32 bytes long (`sha256_length`), which is proved from the definition.
-/
import Dirk.Lemmas.Codec
import Dirk.Model.Ssz

namespace Dirk

/-- two different byte strings with the same SHA-256 digest (in the model's own SHA-256) -/
def Sha256Collision : Prop := ∃ x y : Bytes, x ≠ y ∧ Sha256.hash x = Sha256.hash y

/-- the output stage of `Sha256.hash`, as a function of the final state -/
def shaOut (h : Array UInt32) : List UInt8 := Id.run do
  let mut out : List UInt8 := []
  for i in [0:8] do
    let x := h[7 - i]!
    out := UInt8.ofNat ((x >>> 24).toNat % 256) :: UInt8.ofNat ((x >>> 16).toNat % 256) ::
           UInt8.ofNat ((x >>> 8).toNat % 256) :: UInt8.ofNat (x.toNat % 256) :: out
  return out

theorem shaOut_length (h : Array UInt32) : (shaOut h).length = 32 := by
  unfold shaOut
  simp [Id.run]
  rfl

theorem hash_eq_shaOut (m : List UInt8) : ∃ h, Sha256.hash m = shaOut h := by
  unfold Sha256.hash shaOut
  exact ⟨_, rfl⟩

/-- **the model's SHA-256 digest is 32 bytes long**, whatever the message -/
theorem sha256_length (m : List UInt8) : (Sha256.hash m).length = 32 := by
  obtain ⟨h, e⟩ := hash_eq_shaOut m
  rw [e]
  exact shaOut_length h

theorem h2_length (a b : Bytes) : (Ssz.h2 a b).length = 32 := sha256_length _

theorem zero32_length : Ssz.zero32.length = 32 := by simp [Ssz.zero32]

theorem u64leaf_length (n : Nat) : (Ssz.u64leaf n).length = 32 := by
  simp [Ssz.u64leaf, le64_length]

theorem fit32_length (b : Bytes) : (Ssz.fit32 b).length = 32 := by
  simp [Ssz.fit32, Ssz.zero32, List.length_take]

theorem checkpointRoot_length (e : Nat) (r : Bytes) : (Ssz.checkpointRoot e r).length = 32 :=
  h2_length _ _

theorem merkle8_length (c : List Bytes) : (Ssz.merkle8 c).length = 32 := by
  unfold Ssz.merkle8
  split
  · exact h2_length _ _
  · exact zero32_length

theorem attRoot_length (a : Ssz.Att) : (Ssz.attRoot a).length = 32 := merkle8_length _

theorem headerRoot_length (a : Ssz.Header) : (Ssz.headerRoot a).length = 32 := merkle8_length _

/-- well-formed attestation data: integers fit 64 bits, roots are 32 bytes -/
def Ssz.Att.WF (a : Ssz.Att) : Prop :=
  a.slot < two64 ∧ a.index < two64 ∧ a.srcEpoch < two64 ∧ a.tgtEpoch < two64 ∧
  a.bbr.length = 32 ∧ a.srcRoot.length = 32 ∧ a.tgtRoot.length = 32

/-- the 32-byte chunks that are hashed (before any hashing) -/
def Ssz.attChunks (a : Ssz.Att) : List Bytes :=
  [Ssz.u64leaf a.slot, Ssz.u64leaf a.index, Ssz.fit32 a.bbr, Ssz.u64leaf a.srcEpoch, Ssz.fit32 a.srcRoot,
   Ssz.u64leaf a.tgtEpoch, Ssz.fit32 a.tgtRoot]

def Ssz.Header.WF (h : Ssz.Header) : Prop :=
  h.slot < two64 ∧ h.proposer < two64 ∧ h.parentRoot.length = 32 ∧ h.stateRoot.length = 32 ∧ h.bodyRoot.length = 32

theorem u64leaf_inj {a b : Nat} (ha : a < two64) (hb : b < two64) (h : Ssz.u64leaf a = Ssz.u64leaf b) : a = b := by
  unfold Ssz.u64leaf at h
  have h1 : le64 a = le64 b := by
    have := congrArg (List.take 8) h
    simpa [List.take_append_of_le_length, le64_length] using this
  rw [← unle64_le64 a ha, ← unle64_le64 b hb, h1]

theorem fit32_id {b : Bytes} (h : b.length = 32) : Ssz.fit32 b = b := by
  unfold Ssz.fit32
  rw [List.take_append_of_le_length (by omega)]
  exact List.take_of_length_le (by omega)

/-- below the hash nothing is lost: the chunks of well-formed data determine the data -/
theorem attChunks_inj {a b : Ssz.Att} (ha : a.WF) (hb : b.WF) (h : Ssz.attChunks a = Ssz.attChunks b) : a = b := by
  obtain ⟨a1, a2, a3, a4, a5, a6, a7⟩ := ha
  obtain ⟨b1, b2, b3, b4, b5, b6, b7⟩ := hb
  simp only [Ssz.attChunks, List.cons.injEq, and_true, fit32_id a5, fit32_id b5, fit32_id a6, fit32_id b6,
    fit32_id a7, fit32_id b7] at h
  obtain ⟨h1, h2, h3, h4, h5, h6, h7⟩ := h
  cases a; cases b
  simp only [Ssz.Att.mk.injEq]
  exact ⟨u64leaf_inj a1 b1 h1, u64leaf_inj a2 b2 h2, h3, u64leaf_inj a3 b3 h4, h5, u64leaf_inj a4 b4 h6, h7⟩

theorem headerLeaves_inj {a b : Ssz.Header} (ha : a.WF) (hb : b.WF) (h : Ssz.headerLeaves a = Ssz.headerLeaves b) :
    a = b := by
  obtain ⟨a1, a2, a3, a4, a5⟩ := ha
  obtain ⟨b1, b2, b3, b4, b5⟩ := hb
  simp only [Ssz.headerLeaves, List.cons.injEq, and_true, fit32_id a3, fit32_id b3, fit32_id a4, fit32_id b4,
    fit32_id a5, fit32_id b5] at h
  obtain ⟨h1, h2, h3, h4, h5⟩ := h
  cases a; cases b
  simp only [Ssz.Header.mk.injEq]
  exact ⟨u64leaf_inj a1 b1 h1, u64leaf_inj a2 b2 h2, h3, h4, h5⟩

/-- a two-to-one hashing step with equally long left inputs is injective, or its two inputs are a
    collision witness -/
theorem h2_inj_or_collision {l r l' r' : Bytes} (hl : l.length = l'.length)
    (h : Ssz.h2 l r = Ssz.h2 l' r') : (l = l' ∧ r = r') ∨ Sha256Collision := by
  by_cases e : l ++ r = l' ++ r'
  · exact Or.inl (List.append_inj e hl)
  · exact Or.inr ⟨l ++ r, l' ++ r', e, h⟩

/-- the same, in the form a descent through a tree chains: go on with the two equations, or stop at the collision -/
theorem h2_cancel {l r l' r' : Bytes} {P : Prop} (hl : l.length = l'.length) (h : Ssz.h2 l r = Ssz.h2 l' r')
    (k : l = l' → r = r' → P ∨ Sha256Collision) : P ∨ Sha256Collision :=
  (h2_inj_or_collision hl h).elim (fun e => k e.1 e.2) Or.inr

theorem merkle8_inj_or_collision {a b c d e f g h a' b' c' d' e' f' g' h' : Bytes}
    (ha : a.length = a'.length) (hc : c.length = c'.length) (he : e.length = e'.length)
    (hg : g.length = g'.length)
    (H : Ssz.merkle8 [a, b, c, d, e, f, g, h] = Ssz.merkle8 [a', b', c', d', e', f', g', h']) :
    [a, b, c, d, e, f, g, h] = [a', b', c', d', e', f', g', h'] ∨ Sha256Collision :=
  have h32 : ∀ x y x' y' : Bytes, (Ssz.h2 x y).length = (Ssz.h2 x' y').length := fun _ _ _ _ => by
    rw [h2_length, h2_length]
  h2_cancel (h32 ..) H fun hL hR =>
  h2_cancel (h32 ..) hL fun hLL hLR =>
  h2_cancel (h32 ..) hR fun hRL hRR =>
  h2_cancel ha hLL fun e0 e1 =>
  h2_cancel hc hLR fun e2 e3 =>
  h2_cancel he hRL fun e4 e5 =>
  h2_cancel hg hRR fun e6 e7 =>
  Or.inl (by rw [e0, e1, e2, e3, e4, e5, e6, e7])

theorem attRoot_injective_or_collision (a b : Ssz.Att) (ha : a.WF) (hb : b.WF) :
    Ssz.attRoot a = Ssz.attRoot b → a = b ∨ Sha256Collision := by
  intro h
  have hu : ∀ m n, (Ssz.u64leaf m).length = (Ssz.u64leaf n).length := fun _ _ => by
    rw [u64leaf_length, u64leaf_length]
  refine (merkle8_inj_or_collision (hu ..) (by rw [fit32_length, fit32_length])
    (by rw [checkpointRoot_length, checkpointRoot_length]) rfl h).elim (fun hl => ?_) Or.inr
  simp only [List.cons.injEq, and_true] at hl
  obtain ⟨e0, e1, e2, hsrc, htgt⟩ := hl
  exact h2_cancel (hu ..) hsrc fun e3 e4 => h2_cancel (hu ..) htgt fun e5 e6 =>
    Or.inl (attChunks_inj ha hb (by simp only [Ssz.attChunks, e0, e1, e2, e3, e4, e5, e6]))

theorem headerRoot_injective_or_collision (a b : Ssz.Header) (ha : a.WF) (hb : b.WF) :
    Ssz.headerRoot a = Ssz.headerRoot b → a = b ∨ Sha256Collision := fun h =>
  (merkle8_inj_or_collision (by rw [u64leaf_length, u64leaf_length]) (by rw [fit32_length, fit32_length])
    (by rw [fit32_length, fit32_length]) rfl h).imp_left (headerLeaves_inj ha hb)

theorem signingRoot_some {r d s : Bytes} : Ssz.signingRoot r d = some s →
    r.length = 32 ∧ d.length = 32 ∧ s = Ssz.h2 r d := by
  fun_cases Ssz.signingRoot r d with
  | case1 => nofun
  | case2 hn => intro h; cases h; exact ⟨by omega, by omega, rfl⟩

theorem signingRoot_injective_or_collision (r d r' d' s : Bytes) :
    Ssz.signingRoot r d = some s → Ssz.signingRoot r' d' = some s →
    (r = r' ∧ d = d') ∨ Sha256Collision := by
  intro h h'
  obtain ⟨hr, _, hs⟩ := signingRoot_some h
  obtain ⟨hr', _, hs'⟩ := signingRoot_some h'
  exact h2_inj_or_collision (by omega) (hs.symm.trans hs')

theorem signing_binds {α : Type} {root : α → Bytes} {a b : α} {da db s : Bytes}
    (hinj : root a = root b → a = b ∨ Sha256Collision)
    (h : Ssz.signingRoot (root a) da = some s) (h' : Ssz.signingRoot (root b) db = some s) :
    (a = b ∧ da = db) ∨ Sha256Collision :=
  (signingRoot_injective_or_collision _ _ _ _ _ h h').elim
    (fun e => (hinj e.1).imp_left fun hab => ⟨hab, e.2⟩) Or.inr

/-- what a signature over an attestation binds: equal signing roots ⇒ same data and same domain,
    or a collision -/
theorem att_signing_binds (a b : Ssz.Att) (da db s : Bytes) (ha : a.WF) (hb : b.WF) :
    Ssz.signingRoot (Ssz.attRoot a) da = some s → Ssz.signingRoot (Ssz.attRoot b) db = some s →
    (a = b ∧ da = db) ∨ Sha256Collision :=
  signing_binds (attRoot_injective_or_collision a b ha hb)

/-- what a signature over a block header binds -/
theorem header_signing_binds (a b : Ssz.Header) (da db s : Bytes) (ha : a.WF) (hb : b.WF) :
    Ssz.signingRoot (Ssz.headerRoot a) da = some s → Ssz.signingRoot (Ssz.headerRoot b) db = some s →
    (a = b ∧ da = db) ∨ Sha256Collision :=
  signing_binds (headerRoot_injective_or_collision a b ha hb)

/-- the signing root of an attestation under a 32-byte domain always exists (so the hypotheses
    above are not vacuous) -/
theorem att_signingRoot_exists (a : Ssz.Att) (d : Bytes) (hd : d.length = 32) :
    Ssz.signingRoot (Ssz.attRoot a) d = some (Ssz.h2 (Ssz.attRoot a) d) := by
  simp [Ssz.signingRoot, attRoot_length, hd]

theorem header_signingRoot_exists (a : Ssz.Header) (d : Bytes) (hd : d.length = 32) :
    Ssz.signingRoot (Ssz.headerRoot a) d = some (Ssz.h2 (Ssz.headerRoot a) d) := by
  simp [Ssz.signingRoot, headerRoot_length, hd]

def exAtt : Ssz.Att :=
  { slot := 100, index := 3, bbr := List.replicate 32 1, srcEpoch := 2, srcRoot := List.replicate 32 2,
    tgtEpoch := 3, tgtRoot := List.replicate 32 3 }

def exHeader : Ssz.Header :=
  { slot := 100, proposer := 7, parentRoot := List.replicate 32 1, stateRoot := List.replicate 32 2,
    bodyRoot := List.replicate 32 3 }

theorem exAtt_wf : exAtt.WF := by unfold Ssz.Att.WF; decide

theorem exHeader_wf : exHeader.WF := by unfold Ssz.Header.WF; decide

example : exAtt.WF := exAtt_wf

example : exHeader.WF := exHeader_wf

/-- the hypotheses of `att_signing_binds` hold on a concrete value -/
example : ∃ s, exAtt.WF ∧ Ssz.signingRoot (Ssz.attRoot exAtt) (List.replicate 32 9) = some s :=
  ⟨_, exAtt_wf, att_signingRoot_exists _ _ List.length_replicate⟩

/-- the hypotheses of `header_signing_binds` hold on a concrete value -/
example : ∃ s, exHeader.WF ∧ Ssz.signingRoot (Ssz.headerRoot exHeader) (List.replicate 32 9) = some s :=
  ⟨_, exHeader_wf, header_signingRoot_exists _ _ List.length_replicate⟩

/-- the hypotheses of `signingRoot_injective_or_collision` hold on a concrete value -/
example : ∃ s, Ssz.signingRoot (List.replicate 32 1) (List.replicate 32 2) = some s :=
  ⟨_, if_neg (by simp)⟩

end Dirk

#print axioms Dirk.sha256_length
#print axioms Dirk.attRoot_injective_or_collision
#print axioms Dirk.headerRoot_injective_or_collision
#print axioms Dirk.signingRoot_injective_or_collision
#print axioms Dirk.att_signing_binds
#print axioms Dirk.header_signing_binds
