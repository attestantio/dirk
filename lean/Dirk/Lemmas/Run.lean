/-
  Dirk.Lemmas.Run — the invariants `AttInv` / `PropInv` (Lemmas/Coverage.lean) and `DomInv` hold in every reachable
  instance state.

  `Effect s s'` is ONE statement of what an operation does as far as the released logs and the coverage of the store
  are concerned: both logs are extended by entries of distinct keys that are covered afterwards and above what was
  covered for their key before, and no coverage fact is lost.  Every operation other than the raw rules-level import
  has it (`step_effect`), for one of four reasons: it leaves the store and the two logs alone (`Effect.frame`), or calls
  the attestation rules on distinct keys and signs (`attestKeyed_effect`), or calls the proposal rule and signs
  (`propose_effect`), or replaces the store by the result of an import command.  `AttInv`, `PropInv`, `DomInv`
  and the growth of the logs are corollaries of `Effect`, with no condition.
  `run_attInv` / `run_propInv`: every history without the raw rules-level import (`NoRawImport`): signing,
  restarts, import commands, account creation, account and wallet lock / unlock.
  `…_with_imports`: generalisation to histories that also contain raw imports (`Op.importRec`), each of
  which covers what had been released for its key when it is applied (`SafeHist`, Dirk.Model.Instance).
  The raw import overwrites, so with an import below a released signature the statements are false
  (Props/C01.lean `C01_lowering_import_counterexample`).
-/
import Dirk.Lemmas.OpsExtra
import Dirk.Spec.Slashing

namespace Dirk

/-- a freshly started instance on an arbitrary pre-existing store (e.g. records written by an older
    version, or imported) that has not released anything yet -/
def init (cfg : Config) (db0 : Db) : Inst := { cfg := cfg, db := db0 }

/-- `Effect s s'`: what an operation other than the raw import does, as far as an invariant about the released
    attestations and proposals can see (`step_effect`).  Both logs are extended, by entries of distinct keys, each of its
    rule's domain type, covered by the store afterwards and above everything the store covered for its key before; and the
    store keeps every coverage fact. -/
structure Effect (s s' : Inst) : Prop where
  att : ∃ new, s'.attLog = s.attLog ++ new ∧ (new.map (·.1)).Nodup ∧ ∀ e ∈ new,
    prefix4 (e.2.domain.getD []) = domAttester ∧ Covers s'.db e.1 e.2.src e.2.tgt ∧
    ∀ a b, Covers s.db e.1 a b → b < e.2.tgt ∧ a ≤ e.2.src
  prop : ∃ new, s'.propLog = s.propLog ++ new ∧ (new.map (·.1)).Nodup ∧ ∀ e ∈ new,
    prefix4 (e.2.domain.getD []) = domProposer ∧ PCovers s'.db e.1 e.2.slot ∧ ∀ n, PCovers s.db e.1 n → n < e.2.slot
  keepA : ∀ k a b, Covers s.db k a b → Covers s'.db k a b
  keepP : ∀ k n, PCovers s.db k n → PCovers s'.db k n

/-- a log that stays as it is -/
theorem extends_nil {α : Type} {l l' : List (Bytes × α)} (h : l' = l) (P : Bytes × α → Prop) :
    ∃ new, l' = l ++ new ∧ (new.map (·.1)).Nodup ∧ ∀ e ∈ new, P e :=
  ⟨[], by rw [h, List.append_nil], .nil, fun _ h => nomatch h⟩

/-- generic signing, configuration changes, restart, lock / unlock, a refused import command, and every request refused
    before the rules are consulted -/
theorem Effect.frame {s s' : Inst} (hdb : s'.db = s.db) (ha : s'.attLog = s.attLog) (hp : s'.propLog = s.propLog) :
    Effect s s' :=
  ⟨extends_nil ha _, extends_nil hp _, fun _ _ _ h => hdb ▸ h, fun _ _ h => hdb ▸ h⟩

/-- the attestation rules are called on distinct keys and approved positions are signed (a single attestation is the
    batch of one) -/
theorem attestKeyed_effect (s : Inst) (keyed : List (Bytes × AttData)) (f : Faults) (sf : List Nat)
    (hn : (keyed.map (·.1)).Nodup) : Effect s (attestKeyed s keyed f sf).1 := by
  obtain ⟨L, W, db', hW, hL, hdb, hst, hev⟩ := rulesKeyed_spec s.db keyed f
  obtain ⟨hkeep, happ⟩ := covers_putMany AttData.req ((hW.map (·.1)).nodup hn) hL hdb
  obtain ⟨new, e, hnew⟩ := attestKeyed_state s keyed f sf
  rw [e]
  refine ⟨⟨new, rfl, ?_⟩, extends_nil rfl _, ?_, fun k n hc => hc.congr (rulesKeyed_prop_frame ..)⟩
  · rcases hnew with rfl | ⟨evs, he, hsub⟩
    · exact ⟨.nil, fun _ h => nomatch h⟩
    · -- what is released is, in order, among the approved positions: among the entries, and among `W`
      have hk : new.Sublist keyed := by
        simpa [Function.comp_def, (hev evs he).1] using hsub.map fun e => (e.1, e.2.1)
      refine ⟨(hk.map (·.1)).nodup hn, fun x hx => ?_⟩
      obtain ⟨hw, hok, h⟩ := (hev evs he).2 _ (hsub.subset (List.mem_map.2 ⟨x, hx, rfl⟩)) rfl
      exact ⟨hok.1, h ▸ happ x hw hok⟩
  · rcases hst with h | h <;> rw [h]
    · exact fun _ _ _ hc => hc
    · exact hkeep

/-- the proposal rule is called, and the proposal is released only if it approved -/
theorem propose_effect (s : Inst) (pk : Bytes) (d : PropData) (f : Faults) (new : List (Bytes × PropData))
    (hnew : new = [] ∨ new = [(pk, d)] ∧
      (onPropose s.db pk { domain := d.domain.getD [], slot := d.slot } f).1 = .approved) :
    Effect s { s with db := (onPropose s.db pk { domain := d.domain.getD [], slot := d.slot } f).2,
                      propLog := s.propLog ++ new } := by
  rcases onPropose_cases s.db pk { domain := d.domain.getD [], slot := d.slot } f with ⟨e, hv⟩ | ⟨st, hf, hok, e⟩
  · obtain rfl : new = [] := hnew.resolve_right fun h => hv h.2
    exact .frame e rfl (List.append_nil _)
  · obtain ⟨hkeep, hcov, hlt⟩ := pcovers_put hf hok
    refine ⟨extends_nil rfl _, ⟨new, rfl, ?_⟩, fun k a b hc => hc.congr (onPropose_att_frame ..), e ▸ hkeep⟩
    rcases hnew with rfl | ⟨rfl, -⟩
    · exact ⟨.nil, fun _ h => nomatch h⟩
    · exact ⟨List.pairwise_singleton _ _, List.forall_mem_singleton.2 ⟨hok.1, e ▸ hcov, hlt⟩⟩

theorem step_effect (s : Inst) (op : Op) : Effect s (step s op).1 ∨ ∃ k r, op = .importRec k r := by
  cases op with
  | att c a d f =>
    refine .inl ?_
    show Effect s (signAtt s c a d f).1
    rcases signAtt_cases s c a d f false with h | ⟨acct, _, _, h⟩ <;> rw [h]
    · exact .frame rfl rfl rfl
    · exact attestKeyed_effect _ _ f _ (by simp)
  | atts c items f =>
    refine .inl ?_
    show Effect s (signAtts s c items f).1
    rcases signAtts_cases s c items f [] with h | ⟨hn, h⟩ <;> rw [h]
    · exact .frame rfl rfl rfl
    · exact attestKeyed_effect _ _ f _ hn
  | prop c a d f =>
    refine .inl ?_
    show Effect s (signProp s c a d f).1
    rcases signProp_cases s c a d f false with h | ⟨acct, new, _, _, h, hnew⟩ <;> rw [h]
    · exact .frame rfl rfl rfl
    · exact propose_effect s acct.pubkey d f new hnew
  | sign c ip a d =>
    obtain ⟨sl, h⟩ := signGeneric_state s c ip a d false false
    exact .inl (show Effect s (signGeneric s c ip a d).1 from h ▸ .frame rfl rfl rfl)
  | msign c ip items =>
    obtain ⟨sl, h⟩ := multisign_state s c ip items [] false
    exact .inl (show Effect s (multisign s c ip items).1 from h ▸ .frame rfl rfl rfl)
  | importRec k r => exact .inr ⟨k, r, rfl⟩
  | importCmd gvr f =>
    simp only [step]
    split
    · rename_i db' hok
      -- a successful import command replaces the store by one that lowers no record (`import_fetch_ge`)
      exact .inl ⟨extends_nil rfl _, extends_nil rfl _, importFile_covers hok, importFile_pcovers hok⟩
    · exact .inl (.frame rfl rfl rfl)
  | create c p pk =>
    simp only [step]
    split <;> exact .inl (.frame rfl rfl rfl)
  | restart | setUnlockable _ _ _ | lockWallet _ _ | unlockWallet _ _ => exact .inl (.frame rfl rfl rfl)

section
variable {s s' : Inst} (st : Effect s s')
include st

theorem Effect.attInv (h : AttInv s) : AttInv s' := by
  obtain ⟨new, e, hnd, hnew⟩ := st.att
  have := covered_extend (R := VoteLt) (C := fun k d => Covers s.db k d.src d.tgt)
    (C' := fun k d => Covers s'.db k d.src d.tgt) h.covered h.mono (fun k d => st.keepA k d.src d.tgt) hnd
    fun x hx => ⟨(hnew x hx).2.1, fun d => (hnew x hx).2.2 d.src d.tgt⟩
  exact ⟨e ▸ this.1, e ▸ this.2⟩

theorem Effect.propInv (h : PropInv s) : PropInv s' := by
  obtain ⟨new, e, hnd, hnew⟩ := st.prop
  have := covered_extend (R := fun a b : PropData => a.slot < b.slot) (C := fun k d => PCovers s.db k d.slot)
    (C' := fun k d => PCovers s'.db k d.slot) h.covered h.mono (fun k d => st.keepP k d.slot) hnd
    fun x hx => ⟨(hnew x hx).2.1, fun d => (hnew x hx).2.2 d.slot⟩
  exact ⟨e ▸ this.1, e ▸ this.2⟩

theorem Effect.logs_prefix : s.attLog <+: s'.attLog ∧ s.propLog <+: s'.propLog :=
  ⟨st.att.elim fun new h => ⟨new, h.1.symm⟩, st.prop.elim fun new h => ⟨new, h.1.symm⟩⟩

end

theorem step_logs_prefix (s : Inst) (op : Op) :
    s.attLog <+: (step s op).1.attLog ∧ s.propLog <+: (step s op).1.propLog := by
  rcases step_effect s op with st | ⟨k, r, rfl⟩
  · exact st.logs_prefix
  · exact ⟨List.prefix_refl _, List.prefix_refl _⟩

theorem step_attInv_with_imports (s : Inst) (op : Op) (h : AttInv s) (hs : op.safeAt s) :
    AttInv (step s op).1 := by
  rcases step_effect s op with st | ⟨k, r, rfl⟩
  · exact st.attInv h
  · exact importKey_attInv h (toBytes48 k) r hs

theorem step_propInv_with_imports (s : Inst) (op : Op) (h : PropInv s) (hs : op.safeAt s) :
    PropInv (step s op).1 := by
  rcases step_effect s op with st | ⟨k, r, rfl⟩
  · exact st.propInv h
  · exact importKey_propInv h (toBytes48 k) r hs

theorem run_safeHist {P : Inst → Prop} (hstep : ∀ s op, P s → op.safeAt s → P (step s op).1) :
    ∀ (ops : List Op) (s : Inst), P s → SafeHist s ops → P (run s ops)
  | [], _, h, _ => h
  | op :: rest, s, h, hs => run_safeHist hstep rest _ (hstep s op h hs.1) hs.2

/-- what every step whose operation satisfies `Q` keeps holds after every run of such operations -/
theorem run_forall {P : Inst → Prop} {Q : Op → Prop} (hstep : ∀ s op, P s → Q op → P (step s op).1) :
    ∀ (ops : List Op) (s : Inst), P s → (∀ op ∈ ops, Q op) → P (run s ops)
  | [], _, h, _ => h
  | op :: rest, s, h, hq =>
    run_forall hstep rest _ (hstep s op h (hq op List.mem_cons_self)) fun o ho => hq o (List.mem_cons_of_mem _ ho)

theorem run_attInv_with_imports (ops : List Op) (s : Inst) : AttInv s → SafeHist s ops → AttInv (run s ops) :=
  run_safeHist step_attInv_with_imports ops s

theorem run_propInv_with_imports (ops : List Op) (s : Inst) : PropInv s → SafeHist s ops → PropInv (run s ops) :=
  run_safeHist step_propInv_with_imports ops s

theorem step_attInv (s : Inst) (op : Op) (h : AttInv s) (hr : op.isRawImport = false) : AttInv (step s op).1 :=
  step_attInv_with_imports s op h (safeAt_of_not_raw hr)

theorem step_propInv (s : Inst) (op : Op) (h : PropInv s) (hr : op.isRawImport = false) : PropInv (step s op).1 :=
  step_propInv_with_imports s op h (safeAt_of_not_raw hr)

theorem run_attInv (ops : List Op) (s : Inst) (h : AttInv s) (hr : NoRawImport ops) : AttInv (run s ops) :=
  run_attInv_with_imports ops s h (safeHist_of_noRawImport ops s hr)

theorem run_propInv (ops : List Op) (s : Inst) (h : PropInv s) (hr : NoRawImport ops) : PropInv (run s ops) :=
  run_propInv_with_imports ops s h (safeHist_of_noRawImport ops s hr)

theorem init_attInv (cfg : Config) (db0 : Db) : AttInv (init cfg db0) :=
  ⟨by simp [init], by simp [init, LogMono]⟩

theorem init_propInv (cfg : Config) (db0 : Db) : PropInv (init cfg db0) :=
  ⟨by simp [init], by simp [init, PLogMono]⟩

/-! ## released entries carry the domain type of their rule (C05) -/

structure DomInv (s : Inst) : Prop where
  att : ∀ e ∈ s.attLog, prefix4 (e.2.domain.getD []) = domAttester
  prop : ∀ e ∈ s.propLog, prefix4 (e.2.domain.getD []) = domProposer

theorem Effect.domInv {s s' : Inst} (st : Effect s s') (h : DomInv s) : DomInv s' := by
  obtain ⟨_, ea, _, ha⟩ := st.att
  obtain ⟨_, ep, _, hp⟩ := st.prop
  exact ⟨ea ▸ List.forall_mem_append.mpr ⟨h.att, fun e he => (ha e he).1⟩,
    ep ▸ List.forall_mem_append.mpr ⟨h.prop, fun e he => (hp e he).1⟩⟩

theorem step_domInv (s : Inst) (op : Op) (h : DomInv s) : DomInv (step s op).1 := by
  rcases step_effect s op with st | ⟨k, r, rfl⟩
  · exact st.domInv h
  · exact ⟨h.att, h.prop⟩

theorem run_domInv (ops : List Op) (s : Inst) (h : DomInv s) : DomInv (run s ops) :=
  run_forall (Q := fun _ => True) (fun s op h _ => step_domInv s op h) ops s h fun _ _ => trivial

/-! ## what logs that increase per key mean in the terms of the specification -/

open Spec

theorem not_slashable_of_lt {a b : Vote} (h : a.tgt < b.tgt ∧ a.src ≤ b.src) :
    ¬ Slashable a b ∧ ¬ Slashable b a := by
  unfold Slashable DoubleVote Surrounds
  constructor <;> (intro hs; rcases hs with ⟨h1, _⟩ | ⟨h1, h2⟩ | ⟨h1, h2⟩ <;> omega)

theorem LogMono.votesFor {log : List (Bytes × AttData)} (h : LogMono log) (k : Bytes) :
    (votesFor log k).Pairwise (fun a b => a.tgt < b.tgt ∧ a.src ≤ b.src) :=
  pairwise_key_filter (R := VoteLt) h (fun e => voteOf e.2) (fun _ _ h => h) k

theorem LogMono.not_slashable {log : List (Bytes × AttData)} (hm : LogMono log) {a b : Bytes × AttData}
    (ha : a ∈ log) (hb : b ∈ log) (hk : a.1 = b.1) (hne : a ≠ b) : ¬ Slashable (voteOf a.2) (voteOf b.2) :=
  (pairwise_mem_or hm ha hb hne).elim
    (fun h => (not_slashable_of_lt (a := voteOf a.2) (b := voteOf b.2) (h hk)).1)
    fun h => (not_slashable_of_lt (a := voteOf b.2) (b := voteOf a.2) (h hk.symm)).2

theorem PLogMono.proposalsFor {log : List (Bytes × PropData)} (h : PLogMono log) (k : Bytes) :
    (proposalsFor log k).Pairwise (fun a b => a.slot < b.slot) :=
  pairwise_key_filter (R := fun a b : PropData => a.slot < b.slot) h (·.2) (fun _ _ h => h) k

theorem PLogMono.slot_ne {log : List (Bytes × PropData)} (hm : PLogMono log) {a b : Bytes × PropData}
    (ha : a ∈ log) (hb : b ∈ log) (hk : a.1 = b.1) (hne : a ≠ b) : a.2.slot ≠ b.2.slot :=
  (pairwise_mem_or hm ha hb hne).elim (fun h => Nat.ne_of_lt (h hk)) fun h => (Nat.ne_of_lt (h hk.symm)).symm

end Dirk
