/-
  Dirk.Lemmas.Scatter — `Scatter`'s extents partition `0..n-1`.  Core Lean only.

  `n` items go into blocks of `e`: `n / e` full blocks, which cover `0 .. (n / e) * e - 1`, and one more for the
  remainder if there is one.  Of `extentSize` only `0 < e` is used.
-/
import Dirk.Model.Scatter

namespace Dirk

theorem extentSize_pos (n p : Nat) : 0 < extentSize n p := by
  unfold extentSize
  simp only
  generalize n / p = e
  split
  · omega
  · split <;> omega

/-- block `i` as `Scatter` cuts it: `e` indices from `i * e`, fewer if `n` ends before -/
private abbrev block (n e i : Nat) : List Nat := List.range' (i * e) (if i * e + e > n then n - i * e else e)

/-- the blocks that fit below `n` are full and lie end to end -/
private theorem full_blocks (n e : Nat) : ∀ k, k * e ≤ n → (List.range k).flatMap (block n e) = List.range (k * e)
  | 0, _ => by simp
  | k + 1, hk => by
    rw [Nat.succ_mul] at hk ⊢
    rw [List.range_succ, List.flatMap_append, full_blocks n e k (by omega), List.flatMap_singleton, block,
      if_neg (by omega), List.range_eq_range', List.range_eq_range', ← List.range'_append_1, Nat.zero_add]

/-- number of blocks for `n` items in blocks of `e` (the model's `workers`) -/
private abbrev blocks (n e : Nat) : Nat := if n % e ≠ 0 then n / e + 1 else n / e

private theorem chunks_cover (n e : Nat) (he : 0 < e) : (List.range (blocks n e)).flatMap (block n e) = List.range n := by
  have hq := Nat.div_mul_le_self n e
  unfold blocks
  split
  · have hlt := Nat.lt_div_mul_add (a := n) he
    rw [List.range_succ, List.flatMap_append, full_blocks n e _ hq, List.flatMap_singleton, block, if_pos hlt,
      List.range_eq_range', List.range_eq_range']
    have := List.range'_append_1 (s := 0) (m := n / e * e) (n := n - n / e * e)
    rwa [Nat.zero_add, Nat.add_sub_cancel' hq] at this
  · rename_i h
    rw [full_blocks n e _ hq, Nat.div_mul_cancel (Nat.dvd_of_mod_eq_zero (Decidable.not_not.mp h))]

private theorem block_offset_lt (n e i : Nat) (he : 0 < e) (hi : i < blocks n e) : i * e < n := by
  unfold blocks at hi
  split at hi
  · rename_i h
    have := (Nat.le_div_iff_mul_le he).mp (Nat.le_of_lt_succ hi)
    have : i * e ≠ n := fun e' => h (e' ▸ Nat.mul_mod_left ..)
    omega
  · have := (Nat.le_div_iff_mul_le he).mp hi
    rw [Nat.succ_mul] at this
    omega

theorem extents_partition (n p : Nat) : (extents n p).flatMap (fun e => List.range' e.1 e.2) = List.range n := by
  unfold extents workers
  simp only [List.flatMap_map]
  exact chunks_cover n (extentSize n p) (extentSize_pos n p)

theorem extents_nonempty (n p : Nat) : ∀ e ∈ extents n p, 0 < e.2 := by
  intro x hx
  unfold extents workers at hx
  simp only [List.mem_map, List.mem_range] at hx
  obtain ⟨i, hi, rfl⟩ := hx
  have he := extentSize_pos n p
  have hlt := block_offset_lt n (extentSize n p) i he hi
  simp only
  split <;> omega

theorem extents_length_le (n p : Nat) : (extents n p).length ≤ n := by
  unfold extents
  simp only [List.length_map, List.length_range]
  have he := extentSize_pos n p
  -- the last block starts inside `0..n-1`, and offsets are at least indices
  cases hw : workers n p with
  | zero => omega
  | succ w =>
    have := block_offset_lt n _ w he (by unfold workers at hw; rw [blocks, hw]; omega)
    have := Nat.le_mul_of_pos_right w he
    omega

end Dirk
