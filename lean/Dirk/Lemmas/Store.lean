/-
  Dirk.Lemmas.Store — facts about the store model and record fetches.
-/
import Dirk.Lemmas.Codec

namespace Dirk

theorem get_put_same (db : Db) (k v : Bytes) : (db.put k v).get k = some v := by
  simp [Db.put, Db.get]

theorem get_put_other {db : Db} {k k' v : Bytes} (h : k' ≠ k) : (db.put k v).get k' = db.get k' := by
  have : (k' == k) = false := by simpa using h
  simp [Db.put, Db.get, List.lookup, this]

theorem attKey_inj {a b : Bytes} (h : attKey a = attKey b) : a = b := by
  unfold attKey at h
  exact List.append_cancel_right h

theorem propKey_inj {a b : Bytes} (h : propKey a = propKey b) : a = b := by
  unfold propKey at h
  exact List.append_cancel_right h

theorem attKey_ne_propKey (a b : Bytes) : attKey a ≠ propKey b := by
  intro h
  unfold attKey propKey at h
  have := congrArg List.getLast? h
  simp [actionAtt, actionProp] at this

theorem get_putMany_notin (db : Db) (kvs : List (Bytes × Bytes)) (k : Bytes)
    (h : k ∉ kvs.map (·.1)) : (db.putMany kvs).get k = db.get k := by
  fun_induction Db.putMany db kvs with
  | case1 => rfl
  | case2 db k0 v0 rest ih =>
    simp only [List.map_cons, List.mem_cons, not_or] at h
    rw [ih h.2, get_put_other h.1]

theorem get_putMany_mem (db : Db) (kvs : List (Bytes × Bytes)) (k v : Bytes)
    (hn : (kvs.map (·.1)).Nodup) (hm : (k, v) ∈ kvs) : (db.putMany kvs).get k = some v := by
  fun_induction Db.putMany db kvs with
  | case1 => cases hm
  | case2 db k0 v0 rest ih =>
    simp only [List.map_cons, List.nodup_cons] at hn
    rcases List.mem_cons.mp hm with heq | hin
    · cases heq
      rw [get_putMany_notin _ _ _ hn.1, get_put_same]
    · exact ih hn.2 hin

theorem fetchAtt_put_att_same (db : Db) (pk : Bytes) (st : AttState)
    (hs : InI64 st.src) (ht : InI64 st.tgt) :
    fetchAtt (db.put (attKey pk) (encodeAtt st)) pk false = some st := by
  simp [fetchAtt, get_put_same, decodeAtt_encodeAtt st hs ht]

theorem fetchAtt_put_att_other {db : Db} {pk pk' v : Bytes} (h : pk' ≠ pk) :
    fetchAtt (db.put (attKey pk) v) pk' false = fetchAtt db pk' false := by
  have : attKey pk' ≠ attKey pk := fun e => h (attKey_inj e)
  simp [fetchAtt, get_put_other this]

theorem fetchAtt_put_prop (db : Db) (pk pk' v : Bytes) :
    fetchAtt (db.put (propKey pk) v) pk' false = fetchAtt db pk' false := by
  simp [fetchAtt, get_put_other (attKey_ne_propKey pk' pk)]

theorem fetchProp_put_prop_same (db : Db) (pk : Bytes) (s : Int) (hs : InI64 s) :
    fetchProp (db.put (propKey pk) (encodeProp s)) pk false = some s := by
  simp [fetchProp, get_put_same, decodeProp_encodeProp s hs]

theorem fetchProp_put_prop_other {db : Db} {pk pk' v : Bytes} (h : pk' ≠ pk) :
    fetchProp (db.put (propKey pk) v) pk' false = fetchProp db pk' false := by
  have : propKey pk' ≠ propKey pk := fun e => h (propKey_inj e)
  simp [fetchProp, get_put_other this]

theorem fetchProp_put_att (db : Db) (pk pk' v : Bytes) :
    fetchProp (db.put (attKey pk) v) pk' false = fetchProp db pk' false := by
  have : propKey pk' ≠ attKey pk := fun e => attKey_ne_propKey pk pk' e.symm
  simp [fetchProp, get_put_other this]

theorem fetchAtt_congr {db db' : Db} {pk : Bytes} (h : db'.get (attKey pk) = db.get (attKey pk)) :
    fetchAtt db' pk false = fetchAtt db pk false := by
  simp [fetchAtt, h]

/-! batch writes of attestation records, as `BatchStore` receives them from the batch rule: `l` is the batch,
`key x` the public key of position `x` and `val x` what is written for it -/

theorem fetchAtt_putMany_notin {α : Type} (db : Db) (l : List α) (key : α → Bytes) (val : α → Bytes)
    {k : Bytes} (hk : k ∉ l.map key) :
    fetchAtt (db.putMany (l.map fun x => (attKey (key x), val x))) k false = fetchAtt db k false := by
  refine fetchAtt_congr (get_putMany_notin db _ _ ?_)
  simp only [List.map_map, List.mem_map, Function.comp_apply, not_exists, not_and] at hk ⊢
  exact fun x hx he => hk x hx (attKey_inj he)

theorem fetchAtt_putMany_mem {α : Type} (db : Db) (l : List α) (key : α → Bytes) (val : α → AttState)
    (hn : (l.map key).Nodup) {x : α} (hx : x ∈ l) (hs : InI64 (val x).src) (ht : InI64 (val x).tgt) :
    fetchAtt (db.putMany (l.map fun x => (attKey (key x), encodeAtt (val x)))) (key x) false = some (val x) := by
  have hnd : ((l.map fun x => (attKey (key x), encodeAtt (val x))).map (·.1)).Nodup := by
    rw [List.map_map]
    exact List.pairwise_map.2 ((List.pairwise_map.1 hn).imp fun hne he => hne (attKey_inj he))
  have := get_putMany_mem db _ _ _ hnd (List.mem_map.2 ⟨x, hx, rfl⟩)
  simp [fetchAtt, this, decodeAtt_encodeAtt _ hs ht]

theorem fetchProp_putMany_att {α : Type} (db : Db) (l : List α) (key val : α → Bytes) (k : Bytes) :
    fetchProp (db.putMany (l.map fun x => (attKey (key x), val x))) k false = fetchProp db k false := by
  have : (db.putMany (l.map fun x => (attKey (key x), val x))).get (propKey k) = db.get (propKey k) := by
    refine get_putMany_notin db _ _ ?_
    simp only [List.map_map, List.mem_map, Function.comp_apply, not_exists, not_and]
    exact fun x _ he => attKey_ne_propKey _ _ he
  simp [fetchProp, this]

theorem fetchAtt_fail_true (db : Db) (pk : Bytes) : fetchAtt db pk true = none := by
  simp [fetchAtt]

theorem fetchAtt_some_false {db : Db} {pk : Bytes} {b : Bool} {st : AttState}
    (h : fetchAtt db pk b = some st) : fetchAtt db pk false = some st := by
  cases b with
  | false => exact h
  | true => simp [fetchAtt] at h

theorem fetchProp_some_false {db : Db} {pk : Bytes} {b : Bool} {st : Int}
    (h : fetchProp db pk b = some st) : fetchProp db pk false = some st := by
  cases b with
  | false => exact h
  | true => simp [fetchProp] at h

end Dirk
