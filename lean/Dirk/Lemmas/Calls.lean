/-
  Dirk.Lemmas.Calls — closed forms of the rule functions and of the signing operations: each rule
  call as one equation in the fetched record, and each signing operation as "refused before the rules"
  or a rules call followed by signing.  What a call does to the store, for the invariants: `onAttest_cases`,
  `onPropose_cases`, and `rulesKeyed_spec` (single and batch path of the attestation rules as one write-back).
  Invariants are proved from these and do not unfold the model.
  Defined here (statements of Props rest on the last two): `AttOK`, `PropOK` (a check as one condition), `written`
  (verdict and store after the write), `GenericAllowed` (C05), `seqVerdicts` (C09).
-/
import Dirk.Lemmas.Store
import Dirk.Lemmas.Signer

namespace Dirk

/-! ## each check as one condition on the request and the stored record -/

/-- request `r` is acceptable against the stored record `st` (a negative field of `st` = nothing stored) -/
def AttOK (r : AttReq) (st : AttState) : Prop :=
  prefix4 r.domain = domAttester ∧ (r.src < r.tgt ∨ (r.src = 0 ∧ r.tgt = 0)) ∧
  r.src ≤ maxI64 ∧ r.tgt ≤ maxI64 ∧
  (0 ≤ st.tgt → st.tgt < (r.tgt : Int)) ∧ (0 ≤ st.src → st.src ≤ (r.src : Int))

instance (r : AttReq) (st : AttState) : Decidable (AttOK r st) := by unfold AttOK; exact inferInstance

theorem ite_and_else {α : Type} (p q : Prop) [Decidable p] [Decidable q] (a b : α) :
    (if p ∧ q then a else b) = if p then (if q then a else b) else b := by
  by_cases p <;> by_cases q <;> simp [*]

theorem attChecks_eq (r : AttReq) (st : AttState) :
    attChecks r st = if AttOK r st then (.approved, ⟨(r.src : Int), (r.tgt : Int)⟩) else (.denied, st) := by
  -- each refusing guard of `attChecks` is the negation of one conjunct of `AttOK` …
  have hB : ((r.src ≠ 0 ∨ r.tgt ≠ 0) ∧ r.tgt ≤ r.src) ↔ ¬ (r.src < r.tgt ∨ (r.src = 0 ∧ r.tgt = 0)) := by omega
  have hC : (r.src > maxI64 ∨ r.tgt > maxI64) ↔ ¬ (r.src ≤ maxI64 ∧ r.tgt ≤ maxI64) := by omega
  have hD : (st.tgt ≥ 0 ∧ r.tgt ≤ u64 st.tgt) ↔ ¬ (0 ≤ st.tgt → st.tgt < (r.tgt : Int)) := by
    have := u64_nonneg st.tgt; omega
  have hE : (st.src ≥ 0 ∧ r.src < u64 st.src) ↔ ¬ (0 ≤ st.src → st.src ≤ (r.src : Int)) := by
    have := u64_nonneg st.src; omega
  simp only [attChecks, AttOK, hB, hC, hD, hE, ite_not, ne_eq, ite_and_else]
  -- … so both sides are the same cascade, up to `i64` on values below 2^63
  exact ite_congr rfl (fun _ => ite_congr rfl (fun _ => ite_congr rfl (fun hs => ite_congr rfl (fun ht => by
    rw [i64_small _ hs, i64_small _ ht]) (fun _ => rfl)) (fun _ => rfl)) (fun _ => rfl)) (fun _ => rfl)

theorem attChecks_approved_iff {r : AttReq} {st : AttState} : (attChecks r st).1 = .approved ↔ AttOK r st := by
  rw [attChecks_eq]; split <;> simp [*]

theorem attChecks_verdict (r : AttReq) (st : AttState) :
    (attChecks r st).1 = .approved ∨ (attChecks r st).1 = .denied := by
  rw [attChecks_eq]
  split
  · exact .inl rfl
  · exact .inr rfl

/-- the outcome of a check against an in-range record (every fetched record is one: Lemmas/Range) is in range -/
theorem attChecks_inI64 (r : AttReq) {st : AttState} (h1 : InI64 st.src) (h2 : InI64 st.tgt) :
    InI64 (attChecks r st).2.src ∧ InI64 (attChecks r st).2.tgt := by
  rw [attChecks_eq]
  split
  · rename_i hok; exact ⟨inI64_of_le hok.2.2.1, inI64_of_le hok.2.2.2.1⟩
  · exact ⟨h1, h2⟩

/-- slot request `r` is acceptable against the stored slot `st` (negative = nothing stored) -/
def PropOK (r : PropReq) (st : Int) : Prop :=
  prefix4 r.domain = domProposer ∧ r.slot ≤ maxI64 ∧ (0 ≤ st → st < (r.slot : Int))

instance (r : PropReq) (st : Int) : Decidable (PropOK r st) := by unfold PropOK; exact inferInstance

/-! ## store calls under a fault plan: the write landed, or the call failed and nothing changed -/

theorem storeMany_cases (db : Db) (kvs : List (Bytes × Bytes)) (f : Faults) :
    storeMany db kvs f = (false, db) ∨ (storeMany db kvs f).2 = db.putMany kvs := by
  fun_cases storeMany db kvs f with
  | case1 => exact .inl rfl
  | case2 =>
    by_cases hl : f.storeLanded = true
    · exact .inr (if_pos hl)
    · exact .inl (by rw [if_neg hl])
  | case3 => exact .inr rfl

theorem storeOne_cases (db : Db) (k v : Bytes) (f : Faults) :
    storeOne db k v f = (false, db) ∨ (storeOne db k v f).2 = db.put k v :=
  storeMany_cases db [(k, v)] f

/-! ## the single rule calls, each as one equation in the fetched record -/

/-- verdict and store after the write that follows an approval -/
def written (w : Bool × Db) : Verdict × Db := (if w.1 then .approved else .failed, w.2)

theorem onAttest_eq (db : Db) (pk : Bytes) (r : AttReq) (f : Faults) :
    onAttest db pk r f =
      match fetchAtt db pk (f.fetchFail.contains 0) with
      | none => (.failed, db)
      | some st =>
        if AttOK r st then written (storeOne db (attKey pk) (encodeAtt ⟨(r.src : Int), (r.tgt : Int)⟩) f)
        else (.denied, db) := by
  unfold onAttest
  cases fetchAtt db pk (f.fetchFail.contains 0) with
  | none => rfl
  | some st => by_cases h : AttOK r st <;> simp only [attChecks_eq, h, ↓reduceIte] <;> rfl

theorem onPropose_eq (db : Db) (pk : Bytes) (r : PropReq) (f : Faults) :
    onPropose db pk r f =
      match fetchProp db pk (f.fetchFail.contains 0) with
      | none => (if prefix4 r.domain = domProposer ∧ r.slot ≤ maxI64 then .failed else .denied, db)
      | some st =>
        if PropOK r st then written (storeOne db (propKey pk) (encodeProp (r.slot : Int)) f)
        else (.denied, db) := by
  unfold onPropose PropOK
  by_cases hd : prefix4 r.domain = domProposer
  · by_cases hm : r.slot ≤ maxI64
    · have hm' : ¬ r.slot > maxI64 := by omega
      simp only [hd, ne_eq, not_true_eq_false, ↓reduceIte, hm', hm, and_self, true_and]
      cases fetchProp db pk (f.fetchFail.contains 0) with
      | none => rfl
      | some st =>
        have := u64_nonneg st
        have h : (st ≥ 0 ∧ r.slot ≤ u64 st) ↔ ¬ (0 ≤ st → st < (r.slot : Int)) := by omega
        simp only [h, ite_not, i64_small _ hm]
        rfl
    · have hm' : r.slot > maxI64 := by omega
      simp only [hd, ne_eq, not_true_eq_false, ↓reduceIte, hm', hm, and_false, false_and]
      split <;> rfl
  · simp only [ne_eq, hd, not_false_eq_true, ↓reduceIte, false_and]
    split <;> rfl

/-! ## the batch call: every record fetched and checked, then one `BatchStore` of every outcome -/

theorem evalBatch_some {α : Type} {req : α → AttReq} {db : Db} {f : Faults}
    {items : List (Bytes × α)} {i : Nat} {evs : List (Bytes × α × Verdict × AttState)} :
      evalBatch req db f i items = some evs →
      ∃ L : Bytes → AttState, (∀ it ∈ items, fetchAtt db it.1 false = some (L it.1)) ∧
        evs = items.map (fun it => (it.1, it.2, attChecks (req it.2) (L it.1))) := by
  fun_induction evalBatch req db f i items generalizing evs with
  | case1 => intro h; cases h; exact ⟨fun _ => default, nofun, rfl⟩
  | case2 | case3 => nofun
  | case4 i pk a rest st hf l hl ih =>
    intro h; cases h
    obtain ⟨L, hL, rfl⟩ := ih hl
    -- the records are those of the store: one function serves every position
    refine ⟨fun k => (fetchAtt db k false).getD default, ?_, ?_⟩
    · intro x hx
      rcases List.mem_cons.mp hx with rfl | hx
      · simp [fetchAtt_some_false hf]
      · simp [hL x hx]
    · simp only [List.map_cons, fetchAtt_some_false hf, Option.getD_some, List.cons.injEq, true_and]
      exact List.map_congr_left (fun x hx => by simp [hL x hx])

theorem evalBatch_clean {α : Type} (req : α → AttReq) (db : Db) (f : Faults) (L : Bytes → AttState)
    (hff : f.fetchFail = []) :
    ∀ (items : List (Bytes × α)) (i : Nat), (∀ it ∈ items, fetchAtt db it.1 false = some (L it.1)) →
      evalBatch req db f i items = some (items.map (fun it => (it.1, it.2, attChecks (req it.2) (L it.1)))) := by
  intro items
  induction items with
  | nil => intro i _; rfl
  | cons it rest ih =>
    intro i hf
    simp only [evalBatch, hff, List.contains_nil, hf it (by simp), ih (i + 1) (fun x hx => hf x (by simp [hx])),
      List.map_cons]

/-! ## the verdict depends on the store through the fetched record only -/

theorem written_storeOne_fst (db : Db) (k v : Bytes) (f : Faults) :
    (written (storeOne db k v f)).1 = if f.storeFail then .failed else .approved := by
  unfold written storeOne
  cases f.storeFail <;> rfl

theorem onAttest_verdict_congr {db db' : Db} {pk : Bytes} {r : AttReq} {f : Faults}
    (h : fetchAtt db' pk false = fetchAtt db pk false) :
    (onAttest db' pk r f).1 = (onAttest db pk r f).1 := by
  have h' : fetchAtt db' pk (f.fetchFail.contains 0) = fetchAtt db pk (f.fetchFail.contains 0) := by
    cases f.fetchFail.contains 0 <;> first | exact h | rfl
  rw [onAttest_eq, onAttest_eq, h']
  cases fetchAtt db pk (f.fetchFail.contains 0) with
  | none => rfl
  | some st => by_cases hok : AttOK r st <;> simp only [hok, ↓reduceIte, written_storeOne_fst]

theorem onPropose_verdict_congr {db db' : Db} {pk : Bytes} {r : PropReq} {f : Faults}
    (h : fetchProp db' pk false = fetchProp db pk false) :
    (onPropose db' pk r f).1 = (onPropose db pk r f).1 := by
  have h' : fetchProp db' pk (f.fetchFail.contains 0) = fetchProp db pk (f.fetchFail.contains 0) := by
    cases f.fetchFail.contains 0 <;> first | exact h | rfl
  rw [onPropose_eq, onPropose_eq, h']
  cases fetchProp db pk (f.fetchFail.contains 0) with
  | none => rfl
  | some st => by_cases hok : PropOK r st <;> simp only [hok, ↓reduceIte, written_storeOne_fst]

/-! ## what an approval implies, what a fault rules out, what a batch that reports verdicts has done -/

/-- The store is left alone and the verdict is not an approval; or the request is acceptable against the fetched record
    and the write has landed (an approval, or a store call that failed after its write). -/
theorem onAttest_cases (db : Db) (pk : Bytes) (r : AttReq) (f : Faults) :
    (onAttest db pk r f).2 = db ∧ (onAttest db pk r f).1 ≠ .approved ∨
    ∃ st, fetchAtt db pk false = some st ∧ AttOK r st ∧
      (onAttest db pk r f).2 = db.put (attKey pk) (encodeAtt ⟨(r.src : Int), (r.tgt : Int)⟩) := by
  rw [onAttest_eq]
  split
  · exact .inl ⟨rfl, nofun⟩
  · rename_i st hf
    split
    · rename_i hok
      exact (storeOne_cases db _ _ f).imp (fun h => by rw [h]; exact ⟨rfl, nofun⟩)
        fun h => ⟨st, fetchAtt_some_false hf, hok, h⟩
    · exact .inl ⟨rfl, nofun⟩

theorem onPropose_cases (db : Db) (pk : Bytes) (r : PropReq) (f : Faults) :
    (onPropose db pk r f).2 = db ∧ (onPropose db pk r f).1 ≠ .approved ∨
    ∃ st, fetchProp db pk false = some st ∧ PropOK r st ∧
      (onPropose db pk r f).2 = db.put (propKey pk) (encodeProp (r.slot : Int)) := by
  rw [onPropose_eq]
  split
  · exact .inl ⟨rfl, by split <;> nofun⟩
  · rename_i st hf
    split
    · rename_i hok
      exact (storeOne_cases db _ _ f).imp (fun h => by rw [h]; exact ⟨rfl, nofun⟩)
        fun h => ⟨st, fetchProp_some_false hf, hok, h⟩
    · exact .inl ⟨rfl, nofun⟩

theorem onAttest_fault {db : Db} {pk : Bytes} {r : AttReq} {f : Faults}
    (h : f.fetchFail.contains 0 = true ∨ f.storeFail = true) : (onAttest db pk r f).1 ≠ .approved := by
  rw [onAttest_eq]
  rcases h with h | h
  · rw [h, fetchAtt_fail_true]; simp
  · split
    · simp
    · split <;> simp [written_storeOne_fst, h]

theorem onPropose_fault {db : Db} {pk : Bytes} {r : PropReq} {f : Faults}
    (h : f.fetchFail.contains 0 = true ∨ f.storeFail = true) : (onPropose db pk r f).1 ≠ .approved := by
  rw [onPropose_eq]
  rcases h with h | h
  · simp only [h, fetchProp, ↓reduceIte]; split <;> simp
  · split
    · split <;> simp
    · split <;> simp [written_storeOne_fst, h]

/-- The rules call on a resolved batch, in one statement.  `W`: the entries whose records are written — on the batch path
    all of them (`BatchStore` of every outcome, approved or not), on the single path the entry if it is acceptable; `L`:
    the records fetched for them.  The store is left alone or is the write-back `db'` for `W`; verdicts come back for the
    entries in order, and an approval means: among `W`, acceptable against its record, and the write has landed. -/
theorem rulesKeyed_spec (db : Db) (keyed : List (Bytes × AttData)) (f : Faults) :
    ∃ (L : Bytes → AttState) (W : List (Bytes × AttData)) (db' : Db), W.Sublist keyed ∧
      (∀ it ∈ W, fetchAtt db it.1 false = some (L it.1)) ∧
      db' = db.putMany (W.map fun it => (attKey it.1, encodeAtt (attChecks it.2.req (L it.1)).2)) ∧
      ((rulesKeyed db keyed f).2 = db ∨ (rulesKeyed db keyed f).2 = db') ∧
      ∀ evs, (rulesKeyed db keyed f).1 = some evs → evs.map (fun e => (e.1, e.2.1)) = keyed ∧
        ∀ e ∈ evs, e.2.2 = .approved → (e.1, e.2.1) ∈ W ∧ AttOK e.2.1.req (L e.1) ∧ (rulesKeyed db keyed f).2 = db' := by
  unfold rulesKeyed
  split
  · rename_i k d
    rcases onAttest_cases db k d.req f with ⟨e, hv⟩ | ⟨st, hf, hok, e⟩
    · refine ⟨default, [], _, List.nil_sublist _, List.forall_mem_nil _, rfl, .inl e, fun evs he => ?_⟩
      cases he
      exact ⟨rfl, fun x hx hv' => absurd (by cases List.mem_singleton.1 hx; exact hv') hv⟩
    · have e' := e.trans (show _ = Db.putMany db [(attKey k, encodeAtt (attChecks d.req st).2)] by
        rw [attChecks_eq, if_pos hok]; rfl)
      refine ⟨fun _ => st, [(k, d)], _, .refl _, List.forall_mem_singleton.2 hf, rfl, .inr e', fun evs he => ?_⟩
      cases he
      exact ⟨rfl, fun x hx _ => by cases List.mem_singleton.1 hx; exact ⟨List.mem_singleton_self _, hok, e'⟩⟩
  · unfold onAttestBatch
    cases hev : evalBatch AttData.req db f 0 keyed with
    | none => exact ⟨default, [], _, List.nil_sublist _, List.forall_mem_nil _, rfl, .inl rfl, nofun⟩
    | some evs0 =>
      obtain ⟨L, hL, rfl⟩ := evalBatch_some hev
      simp only [batchKvs, List.map_map, Function.comp_def]
      refine ⟨L, keyed, _, .refl _, hL, rfl, (storeMany_cases db _ f).imp (fun h => by rw [h]) id, fun evs he => ?_⟩
      split at he
      · rename_i hw
        cases he
        refine ⟨by rw [List.map_map]; exact List.map_id' _, fun e hm hv => ?_⟩
        obtain ⟨it, hit, rfl⟩ := List.mem_map.1 hm
        exact ⟨hit, attChecks_approved_iff.1 hv, (storeMany_cases db _ f).resolve_left fun h => by rw [h] at hw; cases hw⟩
      · cases he

theorem rulesKeyed_payload {db : Db} {keyed : List (Bytes × AttData)} {f : Faults}
    {evs : List (Bytes × AttData × Verdict)} (h : (rulesKeyed db keyed f).1 = some evs) :
    evs.map (fun e => (e.1, e.2.1)) = keyed :=
  let ⟨_, _, _, _, _, _, _, hev⟩ := rulesKeyed_spec db keyed f
  (hev evs h).1

/-! ## calls without an injected fault -/

theorem storeOne_clean {f : Faults} (hsf : f.storeFail = false) (db : Db) (k v : Bytes) :
    storeOne db k v f = (true, db.put k v) := by
  simp [storeOne, hsf]

theorem storeMany_clean {f : Faults} (hsf : f.storeFail = false) (db : Db) {kvs : List (Bytes × Bytes)}
    (hne : kvs ≠ []) : storeMany db kvs f = (true, db.putMany kvs) := by
  simp [storeMany, hsf, hne]

theorem onAttest_clean {f : Faults} (hff : f.fetchFail = []) (hsf : f.storeFail = false) {db : Db} {pk : Bytes}
    {st : AttState} (hf : fetchAtt db pk false = some st) (r : AttReq) :
    onAttest db pk r f =
      if AttOK r st then (.approved, db.put (attKey pk) (encodeAtt ⟨(r.src : Int), (r.tgt : Int)⟩))
      else (.denied, db) := by
  simp only [onAttest_eq, hff, List.contains_nil, hf, storeOne_clean hsf, written, ↓reduceIte]

theorem onPropose_clean {f : Faults} (hff : f.fetchFail = []) (hsf : f.storeFail = false) {db : Db} {pk : Bytes}
    {st : Int} (hf : fetchProp db pk false = some st) (r : PropReq) :
    onPropose db pk r f =
      if PropOK r st then (.approved, db.put (propKey pk) (encodeProp (r.slot : Int))) else (.denied, db) := by
  simp only [onPropose_eq, hff, List.contains_nil, hf, storeOne_clean hsf, written, ↓reduceIte]

theorem onAttestBatch_clean {α : Type} (req : α → AttReq) {f : Faults} (hff : f.fetchFail = [])
    (hsf : f.storeFail = false) {db : Db} {items : List (Bytes × α)} {L : Bytes → AttState} (hne : items ≠ [])
    (hf : ∀ it ∈ items, fetchAtt db it.1 false = some (L it.1)) :
    onAttestBatch req db items f =
      (some (items.map (fun it => (it.1, it.2, (attChecks (req it.2) (L it.1)).1))),
       db.putMany (items.map (fun it => (attKey it.1, encodeAtt (attChecks (req it.2) (L it.1)).2)))) := by
  simp only [onAttestBatch, evalBatch_clean req db f L hff items 0 hf, batchKvs, List.map_map, Function.comp_def]
  rw [storeMany_clean hsf db (by simpa using hne)]
  rfl

/-! ## the batch gives the verdicts of its entries taken one at a time (`seqVerdicts`, C09) -/

/-- the entries of a batch submitted one at a time -/
def seqVerdicts (db : Db) : List (Bytes × AttReq) → List Verdict
  | [] => []
  | (k, r) :: rest => (onAttest db k r {}).1 :: seqVerdicts (onAttest db k r {}).2 rest

/-- one at a time, an entry with a key of its own meets the record the batch started from: its
    predecessors wrote other keys -/
theorem seqVerdicts_eq (L : Bytes → AttState) (items : List (Bytes × AttReq)) (db : Db)
    (hn : (items.map (·.1)).Nodup) (hf : ∀ it ∈ items, fetchAtt db it.1 false = some (L it.1)) :
    seqVerdicts db items = items.map (fun it => (attChecks it.2 (L it.1)).1) := by
  fun_induction seqVerdicts db items with
  | case1 => rfl
  | case2 db k r rest ih =>
    simp only [List.map_cons, List.nodup_cons] at hn
    have hk := onAttest_clean (f := {}) rfl rfl (hf (k, r) (by simp)) r
    rw [List.map_cons, ih hn.2, hk, attChecks_eq]
    · split <;> rfl
    -- the predecessor wrote, at most, the record of its own key `k`, which no later entry has
    intro it hit
    rw [hk]
    split
    · rw [fetchAtt_put_att_other (fun e : it.1 = k => hn.1 (e ▸ List.mem_map.mpr ⟨it, hit, rfl⟩))]
      exact hf it (by simp [hit])
    · exact hf it (by simp [hit])

/-! ## requests of another domain are refused and change nothing; what the generic rule allows (`GenericAllowed`, C05) -/

theorem onAttest_other_domain {db : Db} {pk : Bytes} {r : AttReq} {f : Faults}
    (h : prefix4 r.domain ≠ domAttester) :
    (onAttest db pk r f).1 ≠ .approved ∧ (onAttest db pk r f).2 = db :=
  (onAttest_cases db pk r f).elim And.symm fun ⟨_, _, hok, _⟩ => absurd hok.1 h

theorem onPropose_other_domain {db : Db} {pk : Bytes} {r : PropReq} {f : Faults}
    (h : prefix4 r.domain ≠ domProposer) :
    (onPropose db pk r f).1 ≠ .approved ∧ (onPropose db pk r f).2 = db :=
  (onPropose_cases db pk r f).elim And.symm fun ⟨_, _, hok, _⟩ => absurd hok.1 h

/-- what a generic signature may be released for -/
def GenericAllowed (adminIPs : List String) (ip : String) (domain : Bytes) : Prop :=
  prefix4 domain ≠ domAttester ∧ prefix4 domain ≠ domProposer ∧
  (prefix4 domain = domExit → ip ≠ "" ∧ ip ∈ adminIPs)

theorem onSign_approved {adminIPs : List String} {ip : String} {domain : Bytes} :
    onSign adminIPs ip domain = .approved → GenericAllowed adminIPs ip domain := by
  fun_cases onSign adminIPs ip domain with
  | case1 | case2 | case3 | case5 => nofun
  | case4 h1 h2 he hip hc => exact fun _ => ⟨h1, h2, fun _ => ⟨hip, by simpa using hc⟩⟩
  | case6 h1 h2 he => exact fun _ => ⟨h1, h2, fun h => absurd h he⟩

/-! ## the signing operations

Instances of the case lemmas of Lemmas/Signer, in the form the invariants use: the state after an
attestation request is `s` or that of `attestKeyed` on distinct keys; after a proposal request it is `s` or
the store of the rule call and the log extended by what was released. -/

theorem signAtts_cases (s : Inst) (c : String) (items : List (Addr × AttData)) (f : Faults) (sf : List Nat) :
    (signAtts s c items f sf).1 = s ∨
    (((okItems (preCheckAll s.cfg c opAttest items f.lockStateFail)).map (·.1)).Nodup ∧
      signAtts s c items f sf = attestKeyed s (okItems (preCheckAll s.cfg c opAttest items f.lockStateFail)) f sf) := by
  rw [signAtts_eq]
  rcases signBatch_cases AttData.wellFormed s c opAttest items f.lockStateFail with
    ⟨ps, _, _, h⟩ | ⟨_, _, h⟩ | ⟨keyed, rfl, _, _, hlf, hn, h⟩ <;> rw [h]
  · exact .inl rfl
  · exact .inl rfl
  · rw [hlf]; exact .inr ⟨hn, rfl⟩

/-- `SignBeaconAttestation` is `SignBeaconAttestations` on the one resolved request: same state, same position -/
theorem signAtt_eq_attestKeyed {s : Inst} {c : String} {a : Addr} {d : AttData} {f : Faults} {sf : Bool}
    {acct : Account} (hwf : d.wellFormed = true) (hpc : preCheck s.cfg c a opAttest f.lockStateFail = .ok acct) :
    (signAtt s c a d f sf).1 = (attestKeyed s [(acct.pubkey, d)] f (if sf then [0] else [])).1 ∧
    [(signAtt s c a d f sf).2] = (attestKeyed s [(acct.pubkey, d)] f (if sf then [0] else [])).2 := by
  rw [signAtt_eq, signSingle_ok hwf hpc]
  simp only [attestKeyed, finishKeyed, rulesKeyed, signEvs]
  cases (onAttest s.db acct.pubkey d.req f).1 with
  | approved =>
    cases d.signingRoot with
    | none => simp
    | some root => cases sf <;> simp
  | denied | failed | unknown => simp

theorem signAtt_cases (s : Inst) (c : String) (a : Addr) (d : AttData) (f : Faults) (sf : Bool) :
    (signAtt s c a d f sf).1 = s ∨
    ∃ acct, d.wellFormed = true ∧ preCheck s.cfg c a opAttest f.lockStateFail = .ok acct ∧
      (signAtt s c a d f sf).1 = (attestKeyed s [(acct.pubkey, d)] f (if sf then [0] else [])).1 := by
  rcases signSingle_pre d.wellFormed s c a opAttest f.lockStateFail with ⟨r, _, h⟩ | ⟨acct, hwf, hpc⟩
  · rw [signAtt_eq, h]; exact .inl rfl
  · exact .inr ⟨acct, hwf, hpc, (signAtt_eq_attestKeyed hwf hpc).1⟩

/-- the entries a batch releases are, in order, some of its approved positions -/
theorem signEvs_released_sublist (sf : List Nat) (evs : List (Bytes × AttData × Verdict)) (i : Nat) :
    (((signEvs sf i evs).filterMap (·.2)).map fun x => (x.1, x.2, Verdict.approved)).Sublist evs := by
  fun_induction signEvs sf i evs with
  | case1 => exact .slnil
  | case2 i k d v rest ih =>
    -- position i is `signOne`, which releases (k, d) only if v is APPROVED
    show (((signOne v d.signingRoot (sf.contains i) (k, d) :: signEvs sf (i + 1) rest).filterMap (·.2)).map _).Sublist _
    rw [signOne_eq]
    split
    · rename_i h
      simp only [List.filterMap_cons, List.map_cons, h.1]
      exact ih.cons_cons _
    · simp only [List.filterMap_cons]
      exact ih.cons _

theorem attestKeyed_state (s : Inst) (keyed : List (Bytes × AttData)) (f : Faults) (sf : List Nat) :
    ∃ new, (attestKeyed s keyed f sf).1 =
        { s with db := (rulesKeyed s.db keyed f).2, attLog := s.attLog ++ new } ∧
      (new = [] ∨ ∃ evs, (rulesKeyed s.db keyed f).1 = some evs ∧
        (new.map fun x => (x.1, x.2, Verdict.approved)).Sublist evs) := by
  unfold attestKeyed finishKeyed
  cases (rulesKeyed s.db keyed f).1 with
  | none => exact ⟨[], by simp, .inl rfl⟩
  | some evs => exact ⟨_, rfl, .inr ⟨evs, rfl, signEvs_released_sublist sf evs 0⟩⟩

theorem signProp_cases (s : Inst) (c : String) (a : Addr) (d : PropData) (f : Faults) (sf : Bool) :
    (signProp s c a d f sf).1 = s ∨
    ∃ acct new, d.wellFormed = true ∧ preCheck s.cfg c a opPropose f.lockStateFail = .ok acct ∧
      (signProp s c a d f sf).1 =
        { s with db := (onPropose s.db acct.pubkey { domain := d.domain.getD [], slot := d.slot } f).2,
                 propLog := s.propLog ++ new } ∧
      (new = [] ∨ new = [(acct.pubkey, d)] ∧
        (onPropose s.db acct.pubkey { domain := d.domain.getD [], slot := d.slot } f).1 = .approved) := by
  rw [signProp_eq]
  rcases signSingle_pre d.wellFormed s c a opPropose f.lockStateFail with ⟨r, _, h⟩ | ⟨acct, hwf, hpc⟩
  · rw [h]; exact .inl rfl
  · rw [signSingle_ok hwf hpc]
    split
    · exact .inr ⟨acct, [(acct.pubkey, d)], hwf, hpc, rfl, .inr ⟨rfl, ‹_ ∧ _›.1⟩⟩
    · exact .inr ⟨acct, [], hwf, hpc, by simp, .inl rfl⟩

theorem signGeneric_state (s : Inst) (c ip : String) (a : Addr) (d : SignData) (sf lf : Bool) :
    ∃ sl, (signGeneric s c ip a d sf lf).1 = { s with signLog := sl } := by
  rw [signGeneric_eq]
  rcases signSingle_pre d.wellFormed s c a opSign lf with ⟨r, _, h⟩ | ⟨acct, hwf, hpc⟩
  · rw [h]; exact ⟨s.signLog, rfl⟩
  · rw [signSingle_ok hwf hpc]; split <;> exact ⟨_, rfl⟩

theorem multisign_state (s : Inst) (c ip : String) (items : List (Addr × SignData)) (sf : List Nat) (lf : Bool) :
    ∃ sl, (multisign s c ip items sf lf).1 = { s with signLog := sl } := by
  rw [multisign_eq]
  rcases signBatch_cases SignData.wellFormed s c opSign items lf with
    ⟨ps, _, _, h⟩ | ⟨_, _, h⟩ | ⟨keyed, _, _, _, _, _, h⟩ <;> rw [h] <;> exact ⟨_, rfl⟩

theorem signGenerics_allowed (adminIPs : List String) (ip : String) (sf : List Nat)
    (keyed : List (Bytes × SignData)) (i : Nat) :
    ∀ x ∈ (signGenerics adminIPs ip sf i keyed).filterMap (·.2),
      GenericAllowed adminIPs ip (x.2.domain.getD []) := by
  intro x hx
  rw [signGenerics_eq_map] at hx
  obtain ⟨p, hp, hpx⟩ := List.mem_filterMap.mp hx
  obtain ⟨e, _, rfl⟩ := List.mem_map.mp hp
  rw [signOne_eq] at hpx
  split at hpx
  · rename_i h
    cases hpx
    exact onSign_approved h.1
  · cases hpx

theorem signEvs_pointwise (sf : List Nat) (evs : List (Bytes × AttData × Verdict)) (i : Nat) :
    ∀ p ∈ List.zip evs ((signEvs sf i evs).map (·.1)), p.2.root ≠ none → p.2.root = p.1.2.1.signingRoot := by
  intro p hp hr
  rw [signEvs_eq_map, List.map_map] at hp
  obtain ⟨j, hj⟩ := mem_zip_map_zipIdx hp
  rw [hj, Function.comp_apply, signOne_eq] at hr ⊢
  split at hr
  · rw [if_pos ‹_›]
  · exact absurd rfl hr

/-! ## one signing step in closed form, for the concrete histories of Props/C01.lean and Props/C02.lean -/

theorem step_att (s : Inst) (c : String) (a : Addr) (d : AttData) (f : Faults) :
    step s (.att c a d f) = ((signAtt s c a d f false).1, .one (signAtt s c a d f false).2) := rfl

theorem step_prop (s : Inst) (c : String) (a : Addr) (d : PropData) (f : Faults) :
    step s (.prop c a d f) = ((signProp s c a d f false).1, .one (signProp s c a d f false).2) := rfl

theorem signAtt_approved_eq {s : Inst} {c : String} {a : Addr} {d : AttData} {f : Faults}
    {acct : Account} {db' : Db} {root : Bytes}
    (hwf : d.wellFormed = true) (hpc : preCheck s.cfg c a opAttest f.lockStateFail = .ok acct)
    (hon : onAttest s.db acct.pubkey d.req f = (.approved, db')) (hr : d.signingRoot = some root) :
    signAtt s c a d f false =
      ({ s with db := db', attLog := s.attLog ++ [(acct.pubkey, d)] }, ⟨.succeeded, some root⟩) := by
  rw [signAtt_eq, signSingle_ok hwf hpc]
  simp [hon, hr]

theorem signAtt_denied_eq {s : Inst} {c : String} {a : Addr} {d : AttData} {f : Faults}
    {acct : Account} {db' : Db}
    (hwf : d.wellFormed = true) (hpc : preCheck s.cfg c a opAttest f.lockStateFail = .ok acct)
    (hon : onAttest s.db acct.pubkey d.req f = (.denied, db')) :
    signAtt s c a d f false = ({ s with db := db' }, ⟨.denied, none⟩) := by
  rw [signAtt_eq, signSingle_ok hwf hpc]
  simp [hon, verdictRes]

theorem signProp_approved_eq {s : Inst} {c : String} {a : Addr} {d : PropData} {f : Faults}
    {acct : Account} {db' : Db} {root : Bytes}
    (hwf : d.wellFormed = true) (hpc : preCheck s.cfg c a opPropose f.lockStateFail = .ok acct)
    (hon : onPropose s.db acct.pubkey { domain := d.domain.getD [], slot := d.slot } f = (.approved, db'))
    (hr : d.signingRoot = some root) :
    signProp s c a d f false =
      ({ s with db := db', propLog := s.propLog ++ [(acct.pubkey, d)] }, ⟨.succeeded, some root⟩) := by
  rw [signProp_eq, signSingle_ok hwf hpc]
  simp [hon, hr]

theorem signProp_denied_eq {s : Inst} {c : String} {a : Addr} {d : PropData} {f : Faults}
    {acct : Account} {db' : Db}
    (hwf : d.wellFormed = true) (hpc : preCheck s.cfg c a opPropose f.lockStateFail = .ok acct)
    (hon : onPropose s.db acct.pubkey { domain := d.domain.getD [], slot := d.slot } f = (.denied, db')) :
    signProp s c a d f false = ({ s with db := db' }, ⟨.denied, none⟩) := by
  rw [signProp_eq, signSingle_ok hwf hpc]
  simp [hon, verdictRes]

end Dirk
