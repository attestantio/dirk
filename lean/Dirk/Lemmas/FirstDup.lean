/-
  Dirk.Lemmas.FirstDup — the ruler's duplicate scan `firstDup` (Model/Instance.lean), described once: it returns the
  first index whose 48-byte key occurred at an earlier index (`firstDup_isFirst`).  `IsFirst` is the form in which the
  translated `RunRules` takes the results of its scans (Props/Kernels/Ruler.lean reads the contract of its duplicate
  guard off `firstDup_isFirst`); that keys which pass are distinct (`firstDup_nodup`, for the batch skeleton of
  Lemmas/Signer.lean) is its `none` case.
-/
import Dirk.Model.Instance

namespace Dirk

/-- `o` is the first index below `n` at which `p` holds (`none`: it holds at no index below `n`) — the contract of the
    `first…` parameters of `Gen.runRulesValidateGen` -/
def IsFirst (p : Nat → Prop) (n : Nat) : Option Nat → Prop
  | none => ∀ i, i < n → ¬ p i
  | some i => i < n ∧ p i ∧ ∀ j, j < i → ¬ p j

theorem IsFirst.unique {p : Nat → Prop} {n : Nat} {a b : Option Nat} (ha : IsFirst p n a) (hb : IsFirst p n b) :
    a = b := by
  cases a <;> cases b
  · rfl
  · exact absurd hb.2.1 (ha _ hb.1)
  · exact absurd ha.2.1 (hb _ ha.1)
  · exact congrArg some (Nat.le_antisymm (Nat.le_of_not_lt fun h => ha.2.2 _ h hb.2.1)
      (Nat.le_of_not_lt fun h => hb.2.2 _ h ha.2.1))

theorem IsFirst.congr {p q : Nat → Prop} {n : Nat} {o : Option Nat} (h : ∀ i, p i ↔ q i) (ho : IsFirst p n o) :
    IsFirst q n o := by
  rwa [show q = p from funext fun i => propext (h i).symm]

theorem IsFirst.zero {p : Nat → Prop} {n : Nat} (h : p 0) : IsFirst p (n + 1) (some 0) :=
  ⟨Nat.succ_pos n, h, fun _ hj => absurd hj (Nat.not_lt_zero _)⟩

theorem IsFirst.succ {p : Nat → Prop} {n : Nat} {o : Option Nat} (h0 : ¬ p 0) (h : IsFirst (fun i => p (i + 1)) n o) :
    IsFirst p (n + 1) (o.map (· + 1)) := by
  cases o with
  | none =>
    intro i hi
    cases i with
    | zero => exact h0
    | succ i => exact h i (Nat.lt_of_succ_lt_succ hi)
  | some i =>
    refine ⟨Nat.succ_lt_succ h.1, h.2.1, fun j hj => ?_⟩
    cases j with
    | zero => exact h0
    | succ j => exact h.2.2 j (Nat.lt_of_succ_lt_succ hj)

theorem firstDup_shift (seen : List Bytes) (i0 : Nat) (ks : List Bytes) :
    firstDup seen (i0 + 1) ks = (firstDup seen i0 ks).map (· + 1) := by
  induction ks generalizing seen i0 with
  | nil => rfl
  | cons k ks ih =>
    simp only [firstDup]
    split
    · rfl
    · exact ih _ _

theorem firstDup_isFirst (seen ks : List Bytes) :
    IsFirst (fun i => ∃ k, ks[i]? = some k ∧ (toBytes48 k ∈ seen ∨ toBytes48 k ∈ (ks.take i).map toBytes48)) ks.length
      (firstDup seen 0 ks) := by
  induction ks generalizing seen with
  | nil => intro i hi; exact absurd hi (Nat.not_lt_zero _)
  | cons k0 ks ih =>
    rw [firstDup]
    split
    · next hc => exact IsFirst.zero ⟨k0, rfl, Or.inl (List.contains_iff_mem.mp hc)⟩
    · next hc =>
      rw [firstDup_shift]
      refine IsFirst.succ ?_ ?_
      · rintro ⟨k, hk, h⟩
        cases hk
        exact hc (List.contains_iff_mem.mpr (h.resolve_right (List.not_mem_nil)))
      · -- index `i + 1` of `k0 :: ks` is index `i` of `ks` with `k0`'s key among the seen ones
        refine (ih (toBytes48 k0 :: seen)).congr fun i => exists_congr fun k => and_congr_right fun _ => ?_
        rw [List.take_succ_cons, List.map_cons, List.mem_cons, List.mem_cons]
        exact or_assoc.trans or_left_comm

/-- keys that pass the ruler's duplicate check are distinct: no index repeats the 48-byte key of an earlier one, let
    alone the key -/
theorem firstDup_nodup {ks : List Bytes} (h : firstDup [] 0 ks = none) : ks.Nodup := by
  have hno := h ▸ firstDup_isFirst [] ks
  refine List.pairwise_iff_getElem.mpr fun i j hi hj hij e => hno j hj ⟨ks[j], List.getElem?_eq_getElem hj, .inr ?_⟩
  exact List.mem_map.mpr ⟨ks[i], List.mem_take_iff_getElem.mpr ⟨i, by omega, rfl⟩, congrArg _ e⟩

end Dirk
