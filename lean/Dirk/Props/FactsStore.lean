/-
  Obligations on the regenerated facts about the slashing-protection store (C03 and the record keys
  every rule theorem relies on).  `lake build` re-checks them against what /repo's source says now.
-/
import Dirk.Gen.Facts
import Dirk.Model.Rules

namespace Dirk

/-- NewStore sets SyncWrites to the literal `true` -/
theorem facts_sync_writes : Gen.storeSyncWrites = some "true" := rfl

/-- NewStore sets only reviewed badger options: in particular nothing that switches off the directory lock
    (`BypassLockGuard`), makes the store read-only or in-memory, or changes how many versions are kept -/
theorem facts_store_options :
    Gen.storeOptionsSet.all (fun o => ["Logger", "SyncWrites", "TableLoadingMode", "ValueLogLoadingMode"].contains o) = true := by
  decide +kernel

/-- the record-key action bytes are the ones the model uses (attestation 0x02, proposal 0x03) -/
theorem facts_action_bytes :
    Gen.actionBytes = ["actionSignBeaconAttestation=[]byte{0x02}", "actionSignBeaconProposal=[]byte{0x03}"] ∧
    actionAtt = 2 ∧ actionProp = 3 := ⟨rfl, rfl, rfl⟩

end Dirk
