/-
  C08 — Every signature is valid for exactly the requested data and account (partial: crypto).

  Proved about the model: (1) in a batch, the root signed at response position i is the signing root
  of request i's own data, the rules call preserves the order and payload of the requests, and there
  is one response per request (C06_shape_*); (2) what is handed to the signing call of the single
  endpoints is the signing root of exactly the submitted data, under the key of the account the
  request resolved to; (3) the SSZ chunks of well-formed attestation data / block headers determine
  the data (injectivity below the hash); (4) the signing root determines the attestation data / block
  header AND the domain, unless one exhibits a SHA-256 collision (an explicit disjunct about the model's own
  SHA-256, never discharged and never assumed away; Lemmas/SszBinding).  Assumed: SHA-256 collision
  resistance and the BLS library; that the model's SHA-256/SSZ equal the implementation's is established on every run by
  having the real BLS library verify the real signatures against the model's roots.
-/
import Dirk.Lemmas.Run
import Dirk.Lemmas.SszBinding

namespace Dirk

/-- **C08 (batch alignment).** In `SignBeaconAttestations`, once accounts are resolved: the
    response positions are aligned with the requests — position i's root, if any, is the signing root
    of request i's data — and the verdicts come from a rules call that saw the requests in order. -/
theorem C08_batch_pointwise (s : Inst) (keyed : List (Bytes × AttData)) (f : Faults) (sf : List Nat)
    (evs : List (Bytes × AttData × Verdict)) (h : (rulesKeyed s.db keyed f).1 = some evs) :
    evs.map (fun e => (e.1, e.2.1)) = keyed ∧
    (attestKeyed s keyed f sf).2 = (signEvs sf 0 evs).map (·.1) ∧
    ∀ p ∈ List.zip evs (attestKeyed s keyed f sf).2, p.2.root ≠ none → p.2.root = p.1.2.1.signingRoot := by
  have h2 : (attestKeyed s keyed f sf).2 = (signEvs sf 0 evs).map (·.1) := by
    unfold attestKeyed finishKeyed; rw [h]
  refine ⟨rulesKeyed_payload h, h2, ?_⟩
  rw [h2]
  exact signEvs_pointwise sf evs 0

/-- **C08 (what is signed, single endpoints).** A signature returned by `SignBeaconAttestation` is
    over the signing root of exactly the submitted data, and the released entry is filed under the
    public key of the account the request resolved to. -/
theorem C08_signed_root (s : Inst) (c : String) (a : Addr) (d : AttData) (f : Faults) (sf : Bool)
    (r : Bytes) (h : (signAtt s c a d f sf).2.root = some r) :
    d.signingRoot = some r ∧ ∃ acct, preCheck s.cfg c a opAttest = .ok acct ∧
      (signAtt s c a d f sf).1.attLog = s.attLog ++ [(acct.pubkey, d)] := by
  rcases signSingle_cases (signAtt_eq s c a d f sf).symm with ⟨h0, _⟩ | ⟨acct, rt, _, hpc, _, hr, _, hs⟩
  · rw [h0] at h; cases h
  · rw [hs] at h ⊢
    cases h
    exact ⟨hr, acct, (preCheck_ok hpc).2, rfl⟩

/-- **C08 (chunks determine the data).** -/
theorem C08_leaves_injective (a b : Ssz.Att) (ha : a.WF) (hb : b.WF)
    (h : Ssz.attChunks a = Ssz.attChunks b) : a = b :=
  attChunks_inj ha hb h

/-- the model's leaves are a function of those chunks only -/
theorem attLeaves_of_chunks (a : Ssz.Att) :
    Ssz.attLeaves a = match Ssz.attChunks a with
      | [c0, c1, c2, c3, c4, c5, c6] => [c0, c1, c2, Ssz.h2 c3 c4, Ssz.h2 c5 c6, Ssz.zero32, Ssz.zero32, Ssz.zero32]
      | _ => [] := by
  simp [Ssz.attLeaves, Ssz.attChunks, Ssz.checkpointRoot]

/-- **C08 (block header leaves determine the header).** -/
theorem C08_header_leaves_injective (a b : Ssz.Header) (ha : a.WF) (hb : b.WF)
    (h : Ssz.headerLeaves a = Ssz.headerLeaves b) : a = b :=
  headerLeaves_inj ha hb h

/-- **C08 (attestations).** Two well-formed attestation data with equal signing roots (under whatever domains)
    are the same data under the same domain — or the two preimages are a SHA-256 collision. -/
theorem C08_att_root_binds (a b : Ssz.Att) (da db s : Bytes) (ha : a.WF) (hb : b.WF) :
    Ssz.signingRoot (Ssz.attRoot a) da = some s → Ssz.signingRoot (Ssz.attRoot b) db = some s →
    (a = b ∧ da = db) ∨ Sha256Collision :=
  att_signing_binds a b da db s ha hb

/-- **C08 (block headers).** -/
theorem C08_header_root_binds (a b : Ssz.Header) (da db s : Bytes) (ha : a.WF) (hb : b.WF) :
    Ssz.signingRoot (Ssz.headerRoot a) da = some s → Ssz.signingRoot (Ssz.headerRoot b) db = some s →
    (a = b ∧ da = db) ∨ Sha256Collision :=
  header_signing_binds a b da db s ha hb

/-- **C08 (generic).** The signing root of (data root, domain) determines both, or a collision. -/
theorem C08_generic_root_binds (r d r' d' s : Bytes) :
    Ssz.signingRoot r d = some s → Ssz.signingRoot r' d' = some s → (r = r' ∧ d = d') ∨ Sha256Collision :=
  signingRoot_injective_or_collision r d r' d' s

/-- the model's SHA-256 always yields 32 bytes (used for the tree argument) -/
theorem C08_digest_length (m : List UInt8) : (Sha256.hash m).length = 32 := sha256_length m

end Dirk
