/-
  C14 — Conflicting duties can never both reach the signing threshold.

  Cluster = n independent instance models (own configuration, own pre-existing store); the client
  routes any operations to any instances in any order: since instances share nothing, instance i ends
  in `run (init (cfg i) (db0 i)) (ops i)` where `ops i` is what was routed to it, in order (concurrency
  inside one instance reduces to such an order by C04).  For every n, every threshold t with 2t > n
  (which key generation enforces, C12_bounds) and every pair of conflicting duties, the sets of
  instances that released a signature for the one and for the other cannot both have t members.

  The histories contain any operations except the raw rules-level import (`NoRawImport`: signing, restarts,
  import commands, account creation, lock / unlock).  The `…_with_imports` theorems generalise to histories
  that also contain raw imports (`Op.importRec`, which overwrites), each covering what its instance had
  released for the key when it is applied (`SafeHist`).
-/
import Dirk.Lemmas.DkgAlgebra
import Dirk.Model.Dkg
import Dirk.Lemmas.Run

namespace Dirk
open Spec

theorem instance_not_both_with_imports (cfg : Config) (db0 : Db) (ops : List Op)
    (hs : SafeHist (init cfg db0) ops) (k : Bytes) (d1 d2 : AttData)
    (hconf : Slashable (voteOf d1) (voteOf d2))
    (h1 : (k, d1) ∈ (run (init cfg db0) ops).attLog) (h2 : (k, d2) ∈ (run (init cfg db0) ops).attLog) : False := by
  refine (run_attInv_with_imports ops _ (init_attInv cfg db0) hs).mono.not_slashable h1 h2 rfl ?_ hconf
  -- a vote is not slashable against itself
  rintro ⟨⟩
  unfold Slashable DoubleVote Surrounds at hconf
  rcases hconf with ⟨_, h⟩ | ⟨h, _⟩ | ⟨h, _⟩
  · exact h rfl
  · omega
  · omega

theorem instance_not_both_prop_with_imports (cfg : Config) (db0 : Db) (ops : List Op)
    (hs : SafeHist (init cfg db0) ops) (k : Bytes) (d1 d2 : PropData)
    (hconf : DoubleProposal d1 d2)
    (h1 : (k, d1) ∈ (run (init cfg db0) ops).propLog) (h2 : (k, d2) ∈ (run (init cfg db0) ops).propLog) : False :=
  (run_propInv_with_imports ops _ (init_propInv cfg db0) hs).mono.slot_ne h1 h2 rfl
    (fun he => hconf.2 (Prod.mk.inj he).2) hconf.1

/-- (The two `DecidablePred` arguments are implicit so that they are read off the statement this is applied to: finding
    them again by instance search — decidable equality of `Bytes × AttData` — costs as much as the rest of the file.) -/
theorem quorum_not_both {n t : ℕ} (ht : n < 2 * t) (P Q : Fin n → Prop) {_ : DecidablePred P} {_ : DecidablePred Q}
    (h : ∀ i, P i → Q i → False) :
    ¬ (t ≤ (Finset.univ.filter P).card ∧ t ≤ (Finset.univ.filter Q).card) := by
  intro ⟨c1, c2⟩
  have hU : (Finset.univ : Finset (Fin n)).card < 2 * t := by rw [Finset.card_univ, Fintype.card_fin]; exact ht
  obtain ⟨i, hi⟩ := Dkg.quorum_intersect Finset.univ _ _ (Finset.filter_subset _ _) (Finset.filter_subset _ _) t hU c1 c2
  exact h i (Finset.mem_filter.1 (Finset.mem_of_mem_inter_left hi)).2
    (Finset.mem_filter.1 (Finset.mem_of_mem_inter_right hi)).2

theorem C14_with_imports (n t : ℕ) (ht : n < 2 * t) (cfg : Fin n → Config) (db0 : Fin n → Db) (ops : Fin n → List Op)
    (hs : ∀ i, SafeHist (init (cfg i) (db0 i)) (ops i))
    (key : Fin n → Bytes) (d1 d2 : AttData) (hconf : Slashable (voteOf d1) (voteOf d2)) :
    ¬ (t ≤ (Finset.univ.filter (fun i => (key i, d1) ∈ (run (init (cfg i) (db0 i)) (ops i)).attLog)).card ∧
       t ≤ (Finset.univ.filter (fun i => (key i, d2) ∈ (run (init (cfg i) (db0 i)) (ops i)).attLog)).card) :=
  quorum_not_both ht _ _ fun i =>
    instance_not_both_with_imports (cfg i) (db0 i) (ops i) (hs i) (key i) d1 d2 hconf

theorem C14_proposals_with_imports (n t : ℕ) (ht : n < 2 * t) (cfg : Fin n → Config) (db0 : Fin n → Db) (ops : Fin n → List Op)
    (hs : ∀ i, SafeHist (init (cfg i) (db0 i)) (ops i))
    (key : Fin n → Bytes) (d1 d2 : PropData) (hconf : DoubleProposal d1 d2) :
    ¬ (t ≤ (Finset.univ.filter (fun i => (key i, d1) ∈ (run (init (cfg i) (db0 i)) (ops i)).propLog)).card ∧
       t ≤ (Finset.univ.filter (fun i => (key i, d2) ∈ (run (init (cfg i) (db0 i)) (ops i)).propLog)).card) :=
  quorum_not_both ht _ _ fun i =>
    instance_not_both_prop_with_imports (cfg i) (db0 i) (ops i) (hs i) (key i) d1 d2 hconf

/-- one instance never releases both of two slashable attestations for one of its keys -/
theorem instance_not_both (cfg : Config) (db0 : Db) (ops : List Op) (hr : NoRawImport ops) (k : Bytes)
    (d1 d2 : AttData) (hconf : Slashable (voteOf d1) (voteOf d2))
    (h1 : (k, d1) ∈ (run (init cfg db0) ops).attLog) (h2 : (k, d2) ∈ (run (init cfg db0) ops).attLog) : False :=
  instance_not_both_with_imports cfg db0 ops (safeHist_of_noRawImport ops _ hr) k d1 d2 hconf h1 h2

theorem instance_not_both_prop (cfg : Config) (db0 : Db) (ops : List Op) (hr : NoRawImport ops) (k : Bytes)
    (d1 d2 : PropData) (hconf : DoubleProposal d1 d2)
    (h1 : (k, d1) ∈ (run (init cfg db0) ops).propLog) (h2 : (k, d2) ∈ (run (init cfg db0) ops).propLog) : False :=
  instance_not_both_prop_with_imports cfg db0 ops (safeHist_of_noRawImport ops _ hr) k d1 d2 hconf h1 h2

/-- **C14 (attestations).** -/
theorem C14 (n t : ℕ) (ht : n < 2 * t) (cfg : Fin n → Config) (db0 : Fin n → Db) (ops : Fin n → List Op)
    (hr : ∀ i, NoRawImport (ops i))
    (key : Fin n → Bytes) (d1 d2 : AttData) (hconf : Slashable (voteOf d1) (voteOf d2)) :
    ¬ (t ≤ (Finset.univ.filter (fun i => (key i, d1) ∈ (run (init (cfg i) (db0 i)) (ops i)).attLog)).card ∧
       t ≤ (Finset.univ.filter (fun i => (key i, d2) ∈ (run (init (cfg i) (db0 i)) (ops i)).attLog)).card) :=
  C14_with_imports n t ht cfg db0 ops (fun i => safeHist_of_noRawImport (ops i) _ (hr i)) key d1 d2 hconf

/-- **C14 (proposals).** -/
theorem C14_proposals (n t : ℕ) (ht : n < 2 * t) (cfg : Fin n → Config) (db0 : Fin n → Db) (ops : Fin n → List Op)
    (hr : ∀ i, NoRawImport (ops i))
    (key : Fin n → Bytes) (d1 d2 : PropData) (hconf : DoubleProposal d1 d2) :
    ¬ (t ≤ (Finset.univ.filter (fun i => (key i, d1) ∈ (run (init (cfg i) (db0 i)) (ops i)).propLog)).card ∧
       t ≤ (Finset.univ.filter (fun i => (key i, d2) ∈ (run (init (cfg i) (db0 i)) (ops i)).propLog)).card) :=
  C14_proposals_with_imports n t ht cfg db0 ops (fun i => safeHist_of_noRawImport (ops i) _ (hr i)) key d1 d2 hconf

/-- the threshold condition is exactly what generation enforces (n/2 < t with integer division) -/
theorem C14_threshold_from_generation (n t : ℕ) (h : Dkg.generateAccepts n t = true) : n < 2 * t := by
  unfold Dkg.generateAccepts at h
  simp at h
  omega

end Dirk
