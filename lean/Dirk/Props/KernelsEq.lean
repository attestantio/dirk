/-
  Dirk.Props.KernelsEq — the decision kernels, as translated mechanically from /repo's current Go source
  by /verif/factx (Dirk/Gen/Kernels.lean, regenerated on every run), are extensionally EQUAL to the hand-written
  model functions, for all inputs.  One module per translator unit under Props/Kernels (each says in its header which
  Go functions it ties to which model file); a property's file imports the modules it rests on, this one gathers them.
  Five of them (SignLoop, PreCheck, Ruler, Dispatch, Handler) speak in the enumerator values of Kernels/Codes; Lister
  speaks in Bools and its own path code.  Three rest on a lemma file besides the model (none of which imports Dirk/Gen):
  Kernels/Dkg on Lemmas/DkgLife (the closed form of `onCommit`), Kernels/SignLoop on Lemmas/Signer (`signOne`, one
  position of the signing pass), Kernels/Ruler on Lemmas/FirstDup (`IsFirst`, what the duplicate scan `firstDup` returns).

  Names.  `x_eq_gen`: model function (left) = generated function through its wrapper (right).  `xGen_eq…`, `x_eq_model`:
  a generated function (left) in the model's terms.  `xGen_spec`, and the theorems named for what they say
  (`…_key_wins`, `…_nil`, `…_fetchErr`, `…_beyond_model`): what a generated function does, also where the model has no
  counterpart.  `x_is_source`: regenerated strings and tables, by `rfl`.  Many of these are used by no other file: each
  is an obligation on the Go source in its own right — the build fails when the source stops meeting it — not a step
  towards something else.

  How the ties are proved.  A kernel and its model function are two cascades of the same guards, possibly written in a
  different order or with a guard split in two (`if a ∧ b` against nested `if`s, `≠` against `¬ =`, a Bool expression
  against a cascade).  Three ways of saying so occur:
  * `grind [f, Gen.fGen]`, or a bare `grind` after the two definitions have been unfolded by hand: `grind` decides each
    guard ONCE for both sides and compares the results case by case (linear arithmetic for the comparisons).  That
    keeps the proofs indifferent to the order of independent guards in the source.  In the tie of a loop
    (`scanOps_eq_gen`, `senderIdLoopGen_find`, `senderId_eq_gen`) it is the step of an induction and also uses the
    induction hypothesis and the facts stated just before it.
  * where a guard tests a `String` or an `Option` (`isEmpty`, `isSome`, a lookup), the cases are split by hand and each
    is closed by `simp` with the two definitions (`regexify_eq_gen`, `check_eq_gen`, `active_eq_gen`,
    `fetchAccount_eq_gen`, `preCheck_eq_gen`, `listAccountGen_eq_filter`, `batchEarly_eq_model`, `runRulesValidate_spec` …).
  * kernels whose inputs are all Bool / enumerators are closed by `cases … <;> rfl` (evaluation).
  Whatever needs an idea — no int64 wrap-around, a loop being `find?`, a recursion being `foldlM`, a scan combinator
  against its step-by-step execution, a duplicate scan meeting its contract — is a named lemma.

  A semantic edit of a Go kernel changes the regenerated definition and one of these theorems stops building;
  a Go construct outside the translator's fragment replaces the definition by `kernelUntranslatable_…`, and the
  kernel's module does not compile at all.  Core Lean only.
-/
import Dirk.Props.Kernels.Rules
import Dirk.Props.Kernels.Checker
import Dirk.Props.Kernels.Dkg
import Dirk.Props.Kernels.Scatter
import Dirk.Props.Kernels.Import
import Dirk.Props.Kernels.SignLoop
import Dirk.Props.Kernels.PreCheck
import Dirk.Props.Kernels.Ruler
import Dirk.Props.Kernels.Dispatch
import Dirk.Props.Kernels.Lister
import Dirk.Props.Kernels.Handler
