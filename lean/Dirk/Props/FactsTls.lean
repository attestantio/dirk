/-
  Obligations on the regenerated facts that C19 instantiates its theorem with.  `lake build` re-checks
  them against what /repo's source says now.
-/
import Dirk.Gen.Facts
import Dirk.Model.Transport

namespace Dirk

theorem facts_tls_clientAuth : Gen.tlsClientAuth = some "tls.RequireAndVerifyClientCert" := rfl
theorem facts_tls_minVersion : Gen.tlsMinVersion = some "tls.VersionTLS13" := rfl
theorem facts_tls_clientCAs : Gen.tlsClientCAsSet = true := by decide
/-- fields a server tls.Config may be given without weakening client authentication (anything else — session-ticket keys,
    GetConfigForClient, VerifyPeerCertificate, InsecureSkipVerify, MaxVersion, … — needs review) -/
def reviewedTlsFields : List String := ["Certificates", "ClientAuth", "ClientCAs", "MinVersion", "NextProtos", "CipherSuites", "CurvePreferences"]
/-- the server's tls.Config is given reviewed fields only, and no method is called on it (e.g. SetSessionTicketKeys) -/
theorem facts_tls_fields : Gen.tlsConfigFields.all (fun f => reviewedTlsFields.contains f) = true ∧ Gen.tlsConfigCalls = [] := by
  decide +kernel
theorem facts_tls_creds : Gen.grpcCredsInstalled = true ∧ Gen.grpcNewServerCalls = 1 ∧ Gen.otherGrpcServers = [] := by decide
theorem facts_services : Gen.registeredServices = ["WalletManager", "AccountManager", "Lister", "Signer", "DKG"] := rfl
theorem facts_interceptor : "interceptors.ClientInfoInterceptor" ∈ Gen.interceptorChain := by
  simp only [Gen.interceptorChain, List.mem_cons, eq_self, or_true, true_or]
theorem facts_clientName : Gen.clientNameExpr = some "peerCert.Subject.CommonName" ∧
    Gen.clientCertSource = some "peerCerts := authState.PeerCertificates; peerCert := peerCerts[0]" := ⟨rfl, rfl⟩

/-- the server configuration the regenerated facts describe -/
def serverCfg : Transport.ServerCfg :=
  { clientAuth := Gen.tlsClientAuth.getD "", credsInstalled := Gen.grpcCredsInstalled, clientCAs := Gen.tlsClientCAsSet }

end Dirk
