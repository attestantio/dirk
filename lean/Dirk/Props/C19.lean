/-
  C19 — Nothing is served without a certificate from the configured authority (partial: crypto/tls).

  Transport policy model instantiated with the facts regenerated from the source on every run (client
  authentication mode, credentials installed on the only gRPC server, the registered services, the
  interceptor that derives the client name from the first verified peer certificate): a remote procedure
  of any registered service is dispatched only for a caller presenting a currently valid certificate
  issued by a configured authority, and the identity used afterwards is that certificate's subject
  common name.
-/
import Dirk.Props.FactsTls

namespace Dirk
open Transport

/-- **C19 (policy).** Under "require and verify" with credentials installed, whatever is served was
    asked for with a valid certificate from a trusted issuer, and carries that certificate's name. -/
theorem C19_policy (cfg : ServerCfg) (h1 : cfg.clientAuth = "tls.RequireAndVerifyClientCert") (h2 : cfg.credsInstalled = true)
    (cred : Cred) (ident : Option String) (h : serve cfg cred = some ident) :
    ∃ cn, cred = .cert true true cn ∧ ident = some cn ∧ cfg.clientCAs = true := by
  unfold serve handshake at h
  cases cred with
  | plaintext => simp [h2] at h
  | tlsNoCert => simp [h1, h2] at h
  | cert trusted valid cn =>
    simp only [h1, h2] at h
    simp at h
    obtain ⟨⟨ht, hv, hc⟩, hi⟩ := h
    exact ⟨cn, by rw [ht, hv], hi.symm, hc⟩

/-- **C19.** The same for the server configuration dirk's source describes right now. -/
theorem C19 (cred : Cred) (ident : Option String) (h : serve serverCfg cred = some ident) :
    ∃ cn, cred = .cert true true cn ∧ ident = some cn :=
  let ⟨cn, h1, h2, _⟩ := C19_policy serverCfg rfl rfl cred ident h
  ⟨cn, h1, h2⟩

/-- what the weaker modes would admit (why the fact obligation matters) -/
theorem C19_if_given_admits_no_cert :
    serve { clientAuth := "tls.VerifyClientCertIfGiven", credsInstalled := true, clientCAs := true } .tlsNoCert = some none := by
  decide +kernel

theorem C19_no_creds_admits_plaintext :
    serve { clientAuth := "tls.RequireAndVerifyClientCert", credsInstalled := false, clientCAs := true } .plaintext = some none := by
  decide

/-- non-vacuity: a valid certificate is served under its own name -/
example : serve serverCfg (.cert true true "client-test01") = some (some "client-test01") := by decide +kernel

end Dirk
