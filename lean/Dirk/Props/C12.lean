/-
  C12 — Successful distributed key generation yields one consistent threshold key (partial: crypto).

  Algebra over an arbitrary field F and F-module G (instantiated in dirk by the BLS12-381 scalar field
  and curve groups, which are assumed, not modelled): with every participant i holding a polynomial fᵢ
  of degree < t, the share of participant j is Σᵢ fᵢ(j) and the verification vector Σᵢ commit(fᵢ):
  every share is consistent with the vector, the vector's first entry is the group public key, the
  aggregate does not depend on the order in which contributions arrive, any t distinct identifiers
  recover the group secret applied to any point (threshold signatures), t−1 do not, and generation is
  accepted exactly when n/2 < t ≤ n.  The protocol-level part (who holds what after which messages) is
  the cluster model of Dirk.Model.Dkg.
-/
import Dirk.Lemmas.DkgAlgebra
import Dirk.Lemmas.DkgSuccess
import Dirk.Props.Kernels.Dkg

namespace Dirk.Dkg
open Polynomial

variable {F : Type*} [Field F] {G : Type*} [AddCommGroup G] [Module F G]

/-- **C12 (share consistent with the vector).** -/
theorem C12_share_consistent {ι : Type*} (P : Finset ι) (f : ι → F[X]) (t : ℕ)
    (hf : ∀ i ∈ P, (f i).natDegree < t) (g : G) (x : F) :
    evalCommit t (fun k => ∑ i ∈ P, (f i).coeff k • g) x = (∑ i ∈ P, (f i).eval x) • g := by
  simp only [evalCommit, Finset.smul_sum]
  rw [Finset.sum_comm, Finset.sum_smul]
  exact Finset.sum_congr rfl fun i hi => verify_single g (f i) t (hf i hi) x

/-- **C12 (one key for everybody).** The aggregated vector's first entry is the group public key, and
    aggregation is independent of the order in which contributions arrive. -/
theorem C12_same_key {ι : Type*} (P : Finset ι) (f : ι → F[X]) (g : G) {α : Type*} (l l' : List α) (hperm : l.Perm l') (v : α → G) :
    (∑ i ∈ P, (f i).coeff 0 • g) = (∑ i ∈ P, (f i).eval 0) • g ∧ (l.map v).sum = (l'.map v).sum :=
  ⟨by simp only [Finset.sum_smul, coeff_zero_eq_eval_zero], (hperm.map v).sum_eq⟩

/-- **C12 (any t recover).** -/
theorem C12_recover [DecidableEq F] {ι : Type*} (P : Finset ι) (f : ι → F[X]) (t : ℕ)
    (hf : ∀ i ∈ P, (f i).natDegree < t) (T : Finset F) (hT : T.card = t) (h : G) :
    ∑ j ∈ T, (Lagrange.basis T id j).eval 0 • ((∑ i ∈ P, (f i).eval j) • h) = (∑ i ∈ P, (f i).eval 0) • h :=
  recover P f t hf T hT h

/-- **C12 (fewer than t do not).** -/
theorem C12_fewer_fail [DecidableEq F] (p : F[X]) (T : Finset F) (h0 : ∀ x ∈ T, x ≠ 0) (hdeg : p.natDegree = T.card)
    (hp : p ≠ 0) : ∑ j ∈ T, (Lagrange.basis T id j).eval 0 * p.eval j ≠ p.eval 0 := by
  rw [← eval_zero_interpolate]
  exact eval_interpolate_ne p T hdeg hp fun h => h0 0 h rfl

/-- **C12 (bounds).** Generation is refused unless n/2 < t ≤ n (and n ≥ 1), with the integer division
    the code performs. -/
theorem C12_bounds (n t : ℕ) : generateAccepts n t = true ↔ (1 ≤ n ∧ n < 2 * t ∧ t ≤ n) := by
  simp only [generateAccepts, Bool.and_eq_true, Bool.not_eq_true', decide_eq_true_eq, decide_eq_false_iff_not]
  omega

/-- **C12 (protocol, fault-free).** In the client-level outcome table `generateOutcome`, a generation with
    acceptable parameters, a distributed wallet, no clash and a permitted client reports success with every
    participant holding the account. -/
theorem C12_protocol_success (npeers n t : ℕ) (hn : 2 ≤ n) (hb : generateAccepts n t = true) (hp : n ≤ npeers) :
    generateOutcome npeers n t true false true .none = (true, true) := by
  unfold generateOutcome
  have h1 : ¬ n = 1 := by omega
  have h2 : ¬ n > npeers := by omega
  simp [hb, h1, h2]

/-- **C12 (protocol, message level, fault-free).** On a fresh cluster whose instances are the
    participants (distinct non-zero ids, all configured peers), for an account name in a distributed
    wallet and ANY threshold: every `Prepare` is accepted; the `Execute`s, in ANY order, are all accepted
    (and leave every participant holding a contribution from every participant: that conjunct is in
    `generation_succeeds`, of which this is the case of a fresh cluster); every `Commit` is then
    accepted, and afterwards every participant holds the account and no generation for it remains.
    (What the contributions are worth — that the shares are consistent, any `t` recover the key and fewer
    cannot — is `C12_share_consistent` / `C12_recover` / `C12_fewer_fail` over an arbitrary field.)
    (`hlen` is not used: a lone participant swaps with nobody and commits.) -/
theorem C12_generation_succeeds (parts peers order : List Nat) (timeout now : Nat) (acct : String)
    (t init : Nat) (hnd : parts.Nodup) (hnz : ∀ i ∈ parts, i ≠ 0) (hpeers : ∀ i ∈ parts, i ∈ peers)
    (hlen : 2 ≤ parts.length) (hdw : distributedWallet acct = true) (hinit : init ∈ parts)
    (horder : order.Perm parts) :
    let c0 := freshCluster parts peers timeout now
    let p := prepareAll c0 init acct t parts parts
    let e := executeAll p.1 init acct order
    let m := commitAll e.1 init acct parts
    p.2 = List.replicate parts.length Reply.ok ∧
    e.2 = List.replicate parts.length Reply.ok ∧
    m.2 = List.replicate parts.length Reply.ok ∧
    ∀ i ∈ parts, ∃ x, getInst m.1 i = some x ∧ acct ∈ x.accounts ∧ x.sessions.lookup acct = none := by
  have h := generation_succeeds (freshCluster parts peers timeout now) parts parts order parts acct t init hnd hnz
    (fun i hi => by simpa [freshCluster] using hpeers i hi) hdw (freshCluster_fresh parts peers timeout now acct)
    hinit (.refl _) horder (.refl _)
  exact ⟨h.1, h.2.1, h.2.2.2.1, h.2.2.2.2⟩

/-- **tie by translation.** The parameter check `C12_bounds` is about is the function translated on every run from
    the three guards at the top of `OnGenerate` (services/process/standard/generate.go), uint32 division included. -/
theorem C12_kernel_is_source (n t : Nat) : generateAccepts n t = Dirk.Gen.generateAcceptsGen n t :=
  Dirk.generateAccepts_eq_gen n t

end Dirk.Dkg
