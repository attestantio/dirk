/-
  C07 — Operations are served only when the client's permissions allow them.

  (1) `Check` = `Spec.firstBearing` for every configuration the checker accepts and every request
      (`C07_check_refines_spec`): the nested loops with early returns compute "the first bearing item of the
      flattened operation lists of the matching entries", default deny (`C07_scan_eq_spec`); a compiled entry matches
      exactly when its patterns match the whole names (`C07_entry_matches_spec`, from the anchoring theorem of
      Dirk.Lemmas.RegexAnchor), for patterns whose parse has the anchored shape (`ShapeOK`, a fact about the
      string-level parser that is not proved; the driver evaluates a copy of it for every pattern in use);
  (2) unknown client / no identity / malformed account ⇒ refused;
  (3) a refused request changes nothing: no signature, no store change, no log change (signer level);
  (4) the decision is taken on the canonical name of the account actually resolved;
  (5) `regexify`, `Check` and the signer's `preCheck` are the functions translated from the Go source.
-/
import Dirk.Lemmas.Signer
import Dirk.Lemmas.PermsRefine
import Dirk.Props.Kernels.Checker
import Dirk.Props.Kernels.PreCheck

namespace Dirk
open Spec

/-- **C07 (decision logic).** The outer/inner loops of `Check` equal the first-bearing-item rule over
    the flattened operation lists of the matching entries, in order; default deny. -/
theorem C07_scan_eq_spec (w a op : String) (paths : List CPath) :
    scanPaths w a op paths = firstOf op ((paths.filter (cmatches w a)).flatMap (·.ops)) := by
  induction paths with
  | nil => rfl
  | cons p ps ih =>
    rw [scanPaths, List.filter_cons]
    unfold cmatches
    split
    · rw [List.flatMap_cons, scanOps_eq, firstOf, List.filterMap_append]
      cases List.filterMap (bearing op) p.ops with
      | nil => exact ih
      | cons b bs => rfl
    · exact ih

/-- **C07 (whole-name matching).** A compiled path of the shape the parser produces for `regexify`'s
    output matches exactly when the two bodies match the WHOLE wallet name and the WHOLE account name:
    Go's unanchored `MatchString` on `^(?:…)$` cannot match a proper part of a name. -/
theorem C07_whole_name (rw ra : Re) (ops : List String) (w a : String) :
    cmatches w a { wallet := Re.anch rw, account := Re.anch ra, ops := ops }
      = (Re.fullMatch rw w && Re.fullMatch ra a) := by
  unfold cmatches
  rw [Re.search_anchored_parsed_shape, Re.search_anchored_parsed_shape]

/-- **C07 (compiled entry = specification).** An entry compiled through `regexify` matches a
    wallet/account pair in `Check` exactly when the specification says its patterns match the whole
    names (`Spec.entryMatches`), for every entry whose two patterns parse to the anchored shape. -/
theorem C07_entry_matches_spec (e : PermEntry) (c : CPath) (w a : String)
    (hc : compileEntry regexify e = some c)
    (hs : ∀ pw pa, walletAndAccount e.path = some (pw, pa) → ShapeOK pw ∧ ShapeOK pa) :
    cmatches w a c = entryMatches e w a := by
  obtain ⟨pw, pa, hwa, hw, ha, _⟩ := compileEntry_some hc
  unfold cmatches entryMatches
  rw [hwa, search_regexify (hs pw pa hwa).1 hw, search_regexify (hs pw pa hwa).2 ha]

/-- **C07 (default deny).** No matching entry bears on the operation ⇒ refused. -/
theorem C07_default_deny (acc : Access) (client account op : String)
    (h : ∀ w a paths, walletAndAccount account = some (w, a) → acc.lookup client = some paths →
      ((paths.filter (cmatches w a)).flatMap (·.ops)).filterMap (bearing op) = []) :
    check acc client account op = false := by
  fun_cases check acc client account op
  case case5 _ w a hwa _ paths hl => rw [C07_scan_eq_spec, firstOf, h w a paths hwa hl]
  all_goals rfl

/-- **C07 (unknown client).** -/
theorem C07_unknown_client (acc : Access) (client account op : String) (h : acc.lookup client = none) :
    check acc client account op = false :=
  C07_default_deny acc client account op fun _ _ _ _ hl => by rw [h] at hl; cases hl

/-- **C07 (no authenticated identity).** -/
theorem C07_no_identity (acc : Access) (account op : String) : check acc "" account op = false := by
  simp [check]

/-- **C07 (refinement).** For every permission configuration `perms` that `checker/static.New` accepts
    (`compilePerms regexify perms = some acc`) and whose patterns parse to the anchored shape
    (`PermsShapeOK`, a fact about the string-level parser that is not proved; the driver evaluates it,
    through a copy of `ShapeOK`, for every pattern in use), and for every client, account path and operation:
    `Check` answers exactly what the specification says — scan the client's entries in order; entries
    match on the WHOLE wallet and account names, ignoring case; the first operation item that bears on
    the request decides; nothing bears ⇒ refuse. -/
theorem C07_check_refines_spec (perms : Perms) (acc : Access) (client account op : String)
    (hc : compilePerms regexify perms = some acc) (hs : PermsShapeOK perms) :
    check acc client account op = Spec.firstBearing perms client account op := by
  unfold check firstBearing
  split
  · rfl
  · cases walletAndAccount account with
    | none => rfl
    | some wa =>
      obtain ⟨w, a⟩ := wa
      simp only
      split
      · rfl
      · rcases compilePerms_lookup regexify perms acc client hc with
          ⟨h1, h2⟩ | ⟨es, cs, h1, h2, h3, k, hmem⟩
        · rw [h1, h2]
        · rw [h1, h2]
          simp only
          rw [C07_scan_eq_spec, compileEntries_filter_ops h3 fun e he c hce =>
            C07_entry_matches_spec e c w a hce (hs (k, es) hmem e he)]

/-- **Default deny, in specification terms.**  If the client is unknown, or no item of the
    operation lists of the entries whose patterns match the whole wallet and account names bears on
    `op` (in particular if no entry matches), the check refuses.  Stated on the source configuration
    `perms` only. -/
theorem check_default_deny_spec (perms : Perms) (acc : Access) (client account op : String)
    (hc : compilePerms regexify perms = some acc) (hs : PermsShapeOK perms)
    (h : ∀ w a es, walletAndAccount account = some (w, a) → perms.lookup client = some es →
      (∀ e ∈ es, entryMatches e w a = false) ∨
      (∀ e ∈ es, entryMatches e w a = true → ∀ item ∈ e.ops, bearing op item = none)) :
    check acc client account op = false := by
  refine C07_default_deny acc client account op fun w a paths hwa hl => ?_
  rcases compilePerms_lookup regexify perms acc client hc with ⟨_, h2⟩ | ⟨es, cs, h1, h2, h3, k, hmem⟩
  · rw [h2] at hl; cases hl
  · rw [h2] at hl
    cases hl
    rw [compileEntries_filter_ops h3 fun e he c hce => C07_entry_matches_spec e c w a hce (hs (k, es) hmem e he),
      List.filterMap_eq_nil_iff]
    intro item hitem
    obtain ⟨e, he, hie⟩ := List.mem_flatMap.1 hitem
    obtain ⟨hmem, hmatch⟩ := List.mem_filter.1 he
    rcases h w a es hwa h1 with hno | hnb
    · rw [hno e hmem] at hmatch; cases hmatch
    · exact hnb e hmem hmatch item hie

/-- **C07 (nothing is granted by default).** A request is served only if some entry of that very client
    matches the whole names and carries an item bearing on the operation. -/
theorem C07_served_has_bearing (perms : Perms) (acc : Access) (client account op : String)
    (hc : compilePerms regexify perms = some acc) (hs : PermsShapeOK perms)
    (ht : check acc client account op = true) :
    ∃ w a es e item, walletAndAccount account = some (w, a) ∧ perms.lookup client = some es ∧
      e ∈ es ∧ Spec.entryMatches e w a = true ∧ item ∈ e.ops ∧ Spec.bearing op item ≠ none := by
  refine Classical.byContradiction fun hno => ?_
  rw [check_default_deny_spec perms acc client account op hc hs fun w a es hwa hl =>
    .inr fun e he hm item hi => Classical.byContradiction fun hb =>
      hno ⟨w, a, es, e, item, hwa, hl, he, hm, hi, hb⟩] at ht
  cases ht

/-- **C07 (a refused signing request changes nothing).** If the permission check refuses the resolved
    account, the attestation endpoint returns no signature and leaves store and logs untouched. -/
theorem C07_refused_no_effect_att (s : Inst) (c : String) (a : Addr) (d : AttData) (f : Faults) (sf : Bool)
    (acct : Account) (hres : fetchAccount s.cfg a = some acct)
    (hden : check s.cfg.access c (acct.wallet ++ "/" ++ acct.name) opAttest = false) :
    signAtt s c a d f sf = (s, ⟨.denied, none⟩) := by
  rw [signAtt_eq, signSingle_error (preCheck_denied _ hres hden)]
  cases d.wellFormed <;> rfl

theorem C07_refused_no_effect_prop (s : Inst) (c : String) (a : Addr) (d : PropData) (f : Faults) (sf : Bool)
    (acct : Account) (hres : fetchAccount s.cfg a = some acct)
    (hden : check s.cfg.access c (acct.wallet ++ "/" ++ acct.name) opPropose = false) :
    signProp s c a d f sf = (s, ⟨.denied, none⟩) := by
  rw [signProp_eq, signSingle_error (preCheck_denied _ hres hden)]
  cases d.wellFormed <;> rfl

theorem C07_refused_no_effect_sign (s : Inst) (c ip : String) (a : Addr) (d : SignData) (sf lf : Bool)
    (acct : Account) (hres : fetchAccount s.cfg a = some acct)
    (hden : check s.cfg.access c (acct.wallet ++ "/" ++ acct.name) opSign = false) :
    signGeneric s c ip a d sf lf = (s, ⟨.denied, none⟩) := by
  rw [signGeneric_eq, signSingle_error (preCheck_denied _ hres hden)]
  cases d.wellFormed <;> rfl

/-- **C07 (batches).** A batch in which any position is refused releases nothing and changes nothing. -/
theorem C07_refused_no_effect_atts (s : Inst) (c : String) (items : List (Addr × AttData)) (f : Faults)
    (sf : List Nat) (h : (preCheckAll s.cfg c opAttest items).any isErr = true) :
    (signAtts s c items f sf).1 = s := by
  have h := preCheckAll_any_isErr_mono _ _ _ _ h f.lockStateFail
  fun_cases signAtts s c items f sf
  case case5 _ _ _ hne _ _ => exact absurd h hne
  all_goals rfl

/-- **C07 (the decision is taken on the resolved account).** Whenever an attestation is released,
    the permission check passed for the canonical `wallet/account` name of the account the request
    resolved to — whether it was addressed by name or by public key. -/
theorem C07_resolved_account (s : Inst) (c : String) (a : Addr) (d : AttData) (f : Faults) (sf : Bool)
    (h : (signAtt s c a d f sf).2.root ≠ none) :
    ∃ acct, fetchAccount s.cfg a = some acct ∧
      check s.cfg.access c (acct.wallet ++ "/" ++ acct.name) opAttest = true := by
  rcases signSingle_cases (signAtt_eq s c a d f sf).symm with ⟨hn, _⟩ | ⟨acct, _, _, hpc, _⟩
  · exact absurd hn h
  · exact ⟨acct, (preCheck_ok_iff.1 hpc).1, (preCheck_ok_iff.1 hpc).2.1⟩

/-- **tie by translation.** `regexify`, the guard prefix of `Check` and its two loops are, for all inputs, the
    functions `factx` translates on every run from the current Go source of services/checker/static
    (parameters.go `regexify`, service.go `Check`); regular-expression matching itself enters only as the Boolean
    "both of this entry's expressions matched". -/
theorem C07_kernel_is_source (acc : Access) (client account op name : String) :
    regexify name = Gen.regexifyGen name ∧
    check acc client account op = checkWrap false acc client account op :=
  ⟨regexify_eq_gen name, check_eq_gen acc client account op⟩

/-- **C07 (the signer's pre-check is the source).** For every configuration, client, address, operation and lock-state
    fault, the model's `preCheck` — fetch the account (by key when a key is given, else by name), ask the checker about
    `wallet/account` and the operation, unlock — is the decoding of the functions translated on every run from the Go source of
    `preCheck`, `fetchAccount`, `checkAccess` and `unlockAccount` (services/signer/standard/helpers.go), composed as the source
    composes them (the first result that is not SUCCEEDED is returned); and the name handed to the checker is, in the source as
    it is now, `fmt.Sprintf("%s/%s", wallet.Name(), account.Name())`, after the fetch and before the unlock. -/
theorem C07_precheck_is_source (cfg : Config) (client : String) (a : Addr) (op : String) (lockStateFail : Bool) :
    (fetchAccount cfg a = none → preCheck cfg client a op lockStateFail = .error .denied) ∧
    (∀ acct, fetchAccount cfg a = some acct → ∀ isUnlocked unlockOk : Bool,
        (isUnlocked || unlockOk) = acct.unlockable →
        preCheck cfg client a op lockStateFail =
          preCheckOfCode acct (Gen.preCheckGen (fetchAccountG cfg a).1
            (Gen.checkAccessGen (check cfg.access client (Gen.preCheckCheckedNameFnGen acct.wallet acct.name a.name op) op))
            (Gen.unlockAccountGen false false true lockStateFail isUnlocked false unlockOk))) ∧
    Gen.preCheckOrderGen = ["fetchAccount", "checkAccess", "unlockAccount"] :=
  ⟨fun h => ((preCheck_eq_gen cfg client a op lockStateFail).1 h 0 0).2,
   fun acct h iu uo hu => ((preCheck_eq_gen cfg client a op lockStateFail).2 acct h iu uo hu).1,
   preCheck_shape_is_source.2⟩

/-- a case-insensitive literal -/
def lit (s : String) : Re := s.toList.foldr (fun c r => Re.cat (Re.chr true c) r) Re.eps

/-- what `regexify` produced at the pinned commit for the path `w1|w2`: `(?i)^w1|w2$` -/
def legacyAnchored : Re := Re.alt (Re.cat Re.bol (lit "w1")) (Re.cat (lit "w2") Re.eol)

/-- what the fixed `regexify` produces: `(?i)^(?:w1|w2)$` -/
def fixedAnchored : Re := Re.cat Re.bol (Re.cat (Re.alt (lit "w1") (lit "w2")) Re.eol)

/-- The shipped defect (repaired by a `fix:` commit): anchors bound to the outer alternatives only,
    so `w1|w2` also granted `w10` and `xw2`. -/
theorem C07_legacy_counterexample :
    (Re.search legacyAnchored "w10", Re.search legacyAnchored "xw2") = (true, true) := by decide +kernel

/-- The fixed form matches exactly the alternatives, in any case. -/
theorem C07_fixed_alternation :
    (Re.search fixedAnchored "w10", Re.search fixedAnchored "xw2", Re.search fixedAnchored "W1",
     Re.search fixedAnchored "w2") = (false, false, true, true) := by decide +kernel

/-! ## The hypotheses are satisfiable on a concrete configuration

Two clients; the first has an entry with a wallet and an account pattern (`w1/a.*`) and a negated item,
the second a wallet-only entry (`w`, so the account pattern is empty = anything).  The parser facts are
test vectors, evaluated by the kernel. -/

namespace PermsRefineExample

def exPerms : Perms := [("c1", [⟨"w1/a.*", ["~sign", "all"]⟩]), ("c2", [⟨"w", ["attest"]⟩])]

theorem wa1 : walletAndAccount "w1/a.*" = some ("w1", "a.*") := by decide

theorem wa2 : walletAndAccount "w" = some ("w", "") := by decide

theorem wa3 : walletAndAccount "w/x" = some ("w", "x") := by decide

theorem sh1 : ShapeOK "w1" := by unfold ShapeOK; decide +kernel

theorem sh2 : ShapeOK "a.*" := by unfold ShapeOK; decide +kernel

theorem sh3 : ShapeOK "w" := by unfold ShapeOK; decide +kernel

theorem sh4 : ShapeOK "" := by unfold ShapeOK; decide +kernel

theorem exPerms_shape : PermsShapeOK exPerms := by
  intro ce hce e he pw pa hwa
  simp only [exPerms, List.mem_cons, List.not_mem_nil, or_false] at hce
  rcases hce with rfl | rfl
  · simp only [List.mem_cons, List.not_mem_nil, or_false] at he
    subst he
    rw [wa1] at hwa
    cases hwa
    exact ⟨sh1, sh2⟩
  · simp only [List.mem_cons, List.not_mem_nil, or_false] at he
    subst he
    rw [wa2] at hwa
    cases hwa
    exact ⟨sh3, sh4⟩

theorem exPerms_compiles : (compilePerms regexify exPerms).isSome = true := by decide +kernel

/-- both hypotheses of `C07_check_refines_spec` hold for `exPerms`, so the refinement applies to it for
    every client, account and operation -/
example : ∃ acc, compilePerms regexify exPerms = some acc ∧ PermsShapeOK exPerms ∧
    ∀ client account op, check acc client account op = firstBearing exPerms client account op := by
  obtain ⟨acc, hacc⟩ := Option.isSome_iff_exists.1 exPerms_compiles
  exact ⟨acc, hacc, exPerms_shape, fun client account op =>
    C07_check_refines_spec exPerms acc client account op hacc exPerms_shape⟩

/-- the hypothesis of `check_default_deny_spec` holds non-vacuously: client `c2` is known, has an
    entry, and its only item `attest` does not bear on `sign` — so `sign` on `w/x` is refused -/
example : ∃ acc, compilePerms regexify exPerms = some acc ∧ check acc "c2" "w/x" "sign" = false := by
  obtain ⟨acc, hacc⟩ := Option.isSome_iff_exists.1 exPerms_compiles
  refine ⟨acc, hacc, check_default_deny_spec exPerms acc "c2" "w/x" "sign" hacc exPerms_shape
    fun w a es _ hl => .inr ?_⟩
  cases (show exPerms.lookup "c2" = some [⟨"w", ["attest"]⟩] by decide +kernel).symm.trans hl
  simp only [List.mem_singleton, forall_eq]
  exact fun _ => by decide +kernel

end PermsRefineExample

end Dirk

#print axioms Dirk.C07_check_refines_spec
#print axioms Dirk.check_default_deny_spec
#print axioms Dirk.PermsRefineExample.exPerms_shape
#print axioms Dirk.PermsRefineExample.exPerms_compiles
