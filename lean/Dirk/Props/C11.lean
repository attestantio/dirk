/-
  C11 — Exported protection data is faithful and survives restart and upgrade.

  (1) record codec round-trips for every int64 value (both record kinds);
  (2) restart keeps the store (model-trivial; the content is in the correspondence check, which
      closes and reopens the real badger store);
  (3) importing an export into an empty store yields a store that fetches the same states, hence the
      rule functions take the same decisions on every request;
  (4) [Dirk.Lemmas.Exact] on fault-free histories of well-formed requests from an empty store the
      export states exactly the last — which is the highest — released slot, source and target.
  Legacy (gob) records: decoded by Dirk.Model.Gob; their equivalence with Go's decoder is established
  by the correspondence check on records produced by Go's own encoder.
-/
import Dirk.Lemmas.Exact

namespace Dirk

/-- **C11 (codec).** -/
theorem C11_codec_roundtrip :
    (∀ s : AttState, InI64 s.src → InI64 s.tgt → decodeAtt (encodeAtt s) = some s) ∧
    (∀ v : Int, InI64 v → decodeProp (encodeProp v) = some v) :=
  ⟨decodeAtt_encodeAtt, decodeProp_encodeProp⟩

/-- **C11 (restart).** -/
theorem C11_restart (s : Inst) : (step s .restart).1 = s := rfl

/-- **C11 (export is exact).** After any fault-free history of operations from an empty store, the
    export states for every key exactly the last released slot, source and target (−1 = none). -/
theorem C11_export_exact (cfg : Config) (ops : List Op) (hc : ∀ op ∈ ops, op.clean) (k : Bytes) :
    exportKey (run (init cfg []) ops).db k =
      some { slot := lastSlot (run (init cfg []) ops).propLog k,
             src := (lastVote (run (init cfg []) ops).attLog k).src,
             tgt := (lastVote (run (init cfg []) ops).attLog k).tgt } := by
  have h := run_init_exactInv cfg ops hc
  unfold exportKey
  rw [h.att k, h.prop k]

/-- generalisation to histories that also contain raw rules-level imports (`Op.importRec`), each covering
    what had been released for its key when it is applied (`SafeHist`) -/
theorem C11_last_is_highest_with_imports (cfg : Config) (ops : List Op) (hs : SafeHist (init cfg []) ops) (k : Bytes) :
    (∀ e ∈ (run (init cfg []) ops).attLog, e.1 = k →
      (e.2.tgt : Int) ≤ (lastVote (run (init cfg []) ops).attLog k).tgt ∧
      (e.2.src : Int) ≤ (lastVote (run (init cfg []) ops).attLog k).src) ∧
    (∀ e ∈ (run (init cfg []) ops).propLog, e.1 = k →
      (e.2.slot : Int) ≤ lastSlot (run (init cfg []) ops).propLog k) :=
  ⟨fun _ he hk => hk ▸ lastVote_max (run_attInv_with_imports ops _ (init_attInv cfg []) hs).mono he,
   fun _ he hk => hk ▸ lastSlot_max (run_propInv_with_imports ops _ (init_propInv cfg []) hs).mono he⟩

/-- **C11 (the last released is the highest released)**, in each dimension (any history, faults included, of
    signing requests, restarts, import commands, account creations and lock / unlock). -/
theorem C11_last_is_highest (cfg : Config) (ops : List Op) (hr : NoRawImport ops) (k : Bytes) :
    (∀ e ∈ (run (init cfg []) ops).attLog, e.1 = k →
      (e.2.tgt : Int) ≤ (lastVote (run (init cfg []) ops).attLog k).tgt ∧
      (e.2.src : Int) ≤ (lastVote (run (init cfg []) ops).attLog k).src) ∧
    (∀ e ∈ (run (init cfg []) ops).propLog, e.1 = k →
      (e.2.slot : Int) ≤ lastSlot (run (init cfg []) ops).propLog k) :=
  C11_last_is_highest_with_imports cfg ops (safeHist_of_noRawImport ops _ hr) k

/-- **C11 (export → import into an empty store → same decisions).** If a key's exported protection
    is `p` (int64 values; an absent source means an absent target, as every store built by signing
    satisfies), then the store obtained by importing `p` into an empty store fetches exactly the same
    states for that key, so every attestation and proposal request gets the same verdict.
    (`hi` is not used: it follows from `hex`, every fetched value being in range — `import_of_export`.) -/
theorem C11_import_export_same_decisions (db : Db) (k : Bytes) (p : Protection)
    (hex : exportKey db k = some p) (hi : InI64 p.slot ∧ InI64 p.src ∧ InI64 p.tgt)
    (hsrc : p.src = -1 → p.tgt = -1) :
    fetchAtt (importKey [] k p) k false = fetchAtt db k false ∧
    fetchProp (importKey [] k p) k false = fetchProp db k false ∧
    (∀ r f, (onAttest (importKey [] k p) k r f).1 = (onAttest db k r f).1) ∧
    (∀ r f, (onPropose (importKey [] k p) k r f).1 = (onPropose db k r f).1) :=
  have ⟨hatt, hprop⟩ := import_of_export db k p hex hsrc
  ⟨hatt, hprop, fun _ _ => onAttest_verdict_congr hatt, fun _ _ => onPropose_verdict_congr hprop⟩

end Dirk
