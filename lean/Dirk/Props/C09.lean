/-
  C09 — Valid, advancing duties are signed; batches equal one-at-a-time.

  (1) rule-level liveness: against any decodable record, a well-formed request that is above the
      record (target strictly, source weakly; slot strictly) and below 2^63 is APPROVED and recorded;
  (2) for any batch of requests with distinct keys whose records are decodable, the batch path gives,
      position by position, the verdicts of running its entries one at a time;
  (3) `Scatter` splits [0,n) into consecutive, non-empty extents covering every index exactly once,
      for every n > 0 and every GOMAXPROCS > 0.
  The history-level form of (1) ("above everything previously *signed*") additionally needs that the
  record never exceeds what was signed; that holds on fault-free, import-free histories and is what
  the check's judge evaluates on the implementation.
-/
import Dirk.Lemmas.Scatter
import Dirk.Lemmas.Exact
import Dirk.Props.Kernels.Scatter

namespace Dirk

/-- **C09 (attestation liveness, rule level).** -/
theorem C09_live_att_rule (db : Db) (pk : Bytes) (r : AttReq) (st : AttState)
    (hf : fetchAtt db pk false = some st)
    (hdom : prefix4 r.domain = domAttester)
    (hord : r.src < r.tgt ∨ (r.src = 0 ∧ r.tgt = 0))
    (hs : r.src ≤ maxI64) (ht : r.tgt ≤ maxI64)
    (habove_t : st.tgt < (r.tgt : Int)) (habove_s : st.src ≤ (r.src : Int)) :
    (onAttest db pk r {}).1 = .approved ∧
    fetchAtt (onAttest db pk r {}).2 pk false = some ⟨(r.src : Int), (r.tgt : Int)⟩ := by
  have hok : AttOK r st := ⟨hdom, hord, hs, ht, fun _ => habove_t, fun _ => habove_s⟩
  rw [onAttest_clean (f := {}) rfl rfl hf, if_pos hok]
  exact ⟨rfl, fetchAtt_put_att_same _ _ _ (inI64_of_le hs) (inI64_of_le ht)⟩

/-- **C09 (proposal liveness, rule level).** -/
theorem C09_live_prop_rule (db : Db) (pk : Bytes) (r : PropReq) (st : Int)
    (hf : fetchProp db pk false = some st)
    (hdom : prefix4 r.domain = domProposer) (hs : r.slot ≤ maxI64) (habove : st < (r.slot : Int)) :
    (onPropose db pk r {}).1 = .approved ∧
    fetchProp (onPropose db pk r {}).2 pk false = some (r.slot : Int) := by
  have hok : PropOK r st := ⟨hdom, hs, fun _ => habove⟩
  rw [onPropose_clean (f := {}) rfl rfl hf, if_pos hok]
  exact ⟨rfl, fetchProp_put_prop_same _ _ _ (inI64_of_le hs)⟩

/-- **C09 (batch = one at a time).** For requests naming distinct keys whose records are decodable,
    and no injected fault, the batch path returns position by position exactly the verdicts of
    submitting the entries one at a time (each against the state its predecessors left). -/
theorem C09_batch_eq_seq (db : Db) (items : List (Bytes × AttReq)) (hne : items ≠ [])
    (hn : (items.map (·.1)).Nodup) (hdec : ∀ k ∈ items.map (·.1), (fetchAtt db k false).isSome) :
    ∃ evs, (onAttestBatch id db items {}).1 = some evs ∧ evs.map (·.2.2) = seqVerdicts db items := by
  let L : Bytes → AttState := fun k => (fetchAtt db k false).getD default
  have hf : ∀ it ∈ items, fetchAtt db it.1 false = some (L it.1) := fun it hit => by
    obtain ⟨st, hst⟩ := Option.isSome_iff_exists.mp (hdec it.1 (List.mem_map.mpr ⟨it, hit, rfl⟩))
    simp [L, hst]
  rw [onAttestBatch_clean id (f := {}) (L := L) rfl rfl hne hf, seqVerdicts_eq L items db hn hf]
  exact ⟨_, rfl, by simp [List.map_map, Function.comp_def]⟩

/-- **C09 (scatter).**  (`hn` and `hp` are not used: without items there are no extents, and the extent size is
    positive whatever the processor count.) -/
theorem C09_scatter_partition (n p : Nat) (hn : 0 < n) (hp : 0 < p) :
    (extents n p).flatMap (fun e => List.range' e.1 e.2) = List.range n ∧
    (∀ e ∈ extents n p, 0 < e.2) ∧ (extents n p).length ≤ n :=
  ⟨extents_partition n p, extents_nonempty n p, extents_length_le n p⟩

/-- **C09 (attestation liveness, all clean histories).** After any fault-free history of operations
    from an empty store (signing, restarts, account creation, account and wallet lock / unlock — no live
    import, which the property excludes), a well-formed request from a client that is authorised under the
    configuration as it is then, that advances on everything released so far for its key (and is below
    2^63) is signed. -/
theorem C09_live_att (cfg : Config) (ops : List Op) (hc : ∀ op ∈ ops, op.clean)
    (c : String) (a : Addr) (d : AttData) (acct : Account)
    (hwf : d.wellFormed = true) (hpc : preCheck (run (init cfg []) ops).cfg c a opAttest = .ok acct)
    (hroot : d.signingRoot ≠ none) (hdom : prefix4 (d.domain.getD []) = domAttester)
    (hord : d.src < d.tgt ∨ (d.src = 0 ∧ d.tgt = 0)) (hs : d.src ≤ maxI64) (ht : d.tgt ≤ maxI64)
    (hadv : ∀ e ∈ (run (init cfg []) ops).attLog, e.1 = acct.pubkey → e.2.tgt < d.tgt ∧ e.2.src ≤ d.src) :
    (signAtt (run (init cfg []) ops) c a d {} false).2.res = .succeeded :=
  signAtt_live (run_init_exactInv cfg ops hc) c a d acct hwf hpc hroot hdom hord hs ht hadv

/-- **C09 (proposal liveness, all clean histories).** -/
theorem C09_live_prop (cfg : Config) (ops : List Op) (hc : ∀ op ∈ ops, op.clean)
    (c : String) (a : Addr) (d : PropData) (acct : Account)
    (hwf : d.wellFormed = true) (hpc : preCheck (run (init cfg []) ops).cfg c a opPropose = .ok acct)
    (hroot : d.signingRoot ≠ none) (hdom : prefix4 (d.domain.getD []) = domProposer) (hs : d.slot ≤ maxI64)
    (hadv : ∀ e ∈ (run (init cfg []) ops).propLog, e.1 = acct.pubkey → e.2.slot < d.slot) :
    (signProp (run (init cfg []) ops) c a d {} false).2.res = .succeeded :=
  signProp_live (run_init_exactInv cfg ops hc) c a d acct hwf hpc hroot hdom hs hadv

/-- non-vacuity -/
example : extents 10 3 = [(0, 4), (4, 4), (8, 2)] := by decide
example : seqVerdicts [] [([7], ⟨domAttester, 1, 2⟩), ([8], ⟨domAttester, 3, 3⟩)] = [.approved, .denied] := by decide

/-- **tie by translation.** The extent size the partition theorems are about is, for every batch size that fits an
    int64 and every positive processor count, what the function translated on every run from the Go source of
    `calculateExtentSize` (util/scatter.go; Go `int` arithmetic with truncating division and wrap-around) returns —
    and that Go code neither divides by zero nor overflows there. -/
theorem C09_kernel_is_source (n p : Nat) (hp : 0 < p) (hn : n ≤ maxI64) :
    Gen.extentSizeGen n p = some (extentSize n p : Int) :=
  extentSize_eq_gen n p hp hn

end Dirk
