/-
  C17 — Key-generation sessions follow a strict one-per-account lifecycle.

  State machine over the cluster model (Dirk.Model.Dkg) with events prepare / execute / contribute /
  commit / abort / clock advance; for every cluster state, instance, caller and account name: preparing
  again while a generation is active is refused and leaves it intact; execute, contribute, commit and
  abort are refused unless one is active; commit succeeds only once every listed participant has
  contributed; after a successful commit, an abort or the timeout the generation is gone and a new one
  may start; generations for different names do not interfere.
-/
import Dirk.Lemmas.DkgLife
import Dirk.Lemmas.LifeJudge
import Dirk.Props.Kernels.Dkg

namespace Dirk.Dkg

theorem C17_prepare_twice (c : Cluster) (i caller : Nat) (acct : String) (t : Nat) (parts : List Nat) (s : Session)
    (hp : senderId c caller ≠ 0) (hs : sessionOf c i acct = some s) :
    (onPrepare c i caller acct t parts).2 = .refused ∧ sessionOf (onPrepare c i caller acct t parts).1 i acct = some s := by
  obtain ⟨hr, hw⟩ := onPrepare_spec c i caller acct t parts
  rw [if_neg hp, if_pos (.inr (by rw [hs]; rfl))] at hr
  rw [hw.session, hr, if_pos ⟨rfl, rfl⟩, hs]
  exact ⟨rfl, rfl⟩

theorem C17_requires_active (c : Cluster) (i caller : Nat) (acct : String) (valid : Bool) (vlen : Nat)
    (hs : sessionOf c i acct = none) :
    (onExecute c i caller acct).2 ≠ .ok ∧ (onContribute c i caller acct valid vlen).2 ≠ .ok ∧
    (onCommit c i caller acct).2 ≠ .ok ∧ (onAbort c i caller acct).2 ≠ .ok := by
  refine ⟨fun h => ?_, fun h => ?_, fun h => ?_, fun h => ?_⟩
  · simpa [hs] using (onExecute_spec c i caller acct).1 h
  · simpa [hs] using (onContribute_spec c i caller acct valid vlen).1.mp h
  · simpa [hs] using (onCommit_spec c i caller acct).1.mp h
  · simpa [hs] using (onAbort_spec c i caller acct).1.mp h

/-- gone after a successful commit (which also created the account), after an abort, after the timeout -/
theorem C17_gone_after (c : Cluster) (i caller : Nat) (acct : String) :
    ((onCommit c i caller acct).2 = .ok →
        sessionOf (onCommit c i caller acct).1 i acct = none ∧ holdsAccount (onCommit c i caller acct).1 i acct = true) ∧
    ((onAbort c i caller acct).2 = .ok → sessionOf (onAbort c i caller acct).1 i acct = none) ∧
    (∀ s d, sessionOf c i acct = some s → c.now + d - s.started > c.timeout → sessionOf (tick c d) i acct = none) := by
  refine ⟨fun h => ?_, fun h => ?_, fun s d hs hd => ?_⟩
  · have hw := onCommit_ok_writes h
    exact ⟨(hw.session i acct).trans (if_pos ⟨rfl, rfl⟩), (hw.account i acct).trans (if_pos ⟨rfl, rfl⟩)⟩
  · rw [(onAbort_spec c i caller acct).2.session, if_pos ⟨rfl, rfl⟩, if_pos h]
  · rw [sessionOf_tick, hs]
    exact if_pos hd

theorem C17_restart_allowed (c : Cluster) (i caller : Nat) (acct : String) (t : Nat) (parts : List Nat)
    (hp : senderId c caller ≠ 0) (hi : getInst c i ≠ none) (hs : sessionOf c i acct = none) :
    (onPrepare c i caller acct t parts).2 = .ok ∧
    ∃ s, sessionOf (onPrepare c i caller acct t parts).1 i acct = some s ∧ s.participants = parts ∧ s.threshold = t := by
  obtain ⟨hr, hw⟩ := onPrepare_spec c i caller acct t parts
  rw [if_neg hp, if_neg (by simp [hi, hs])] at hr
  rw [hw.session, if_pos ⟨rfl, rfl⟩, if_pos hr]
  exact ⟨hr, _, rfl, rfl, rfl⟩

/-- **commit succeeds only once every listed participant has contributed** -/
theorem C17_commit_complete (c : Cluster) (i caller : Nat) (acct : String)
    (h : (onCommit c i caller acct).2 = .ok) :
    ∃ s, sessionOf c i acct = some s ∧ ∀ p ∈ s.participants, p ∈ s.contributed :=
  have ⟨_, s, hs, _, hall, _⟩ := (onCommit_spec c i caller acct).1.mp h
  ⟨s, hs, hall⟩

theorem C17_independent_names (c : Cluster) (i caller k : Nat) (acct other : String) (t : Nat) (parts : List Nat)
    (hne : other ≠ acct) :
    sessionOf (onPrepare c i caller acct t parts).1 k other = sessionOf c k other ∧
    sessionOf (onCommit c i caller acct).1 k other = sessionOf c k other ∧
    sessionOf (onAbort c i caller acct).1 k other = sessionOf c k other := by
  have hn : ¬ (k = i ∧ other = acct) := fun h => hne h.2
  exact ⟨by rw [(onPrepare_spec c i caller acct t parts).2.session, if_neg hn],
    by rw [(onCommit_spec c i caller acct).2.session, if_neg hn],
    by rw [(onAbort_spec c i caller acct).2.session, if_neg hn]⟩

/-- **the lifecycle judge never raises an alarm on the model.**  `Spec.Life.judge` is the reading of C17
    that the check evaluates on the implementation's replies alone (no prepare accepted while a
    generation for that name is active on that instance, nothing else accepted while none is, names and
    instances independent by construction).  For every event sequence — prepares, executes (with the
    contribution exchanges they trigger), contributions, commits, aborts, clock advances, any callers,
    any names — fed to the model cluster the driver builds, every verdict on the model's own replies is
    "ok": the model satisfies that reading of C17 for all histories, and a verdict other than "ok" on
    the implementation is a behaviour the proven model cannot show. -/
theorem C17_lifecycle_all_histories (ids peers : List Nat) (timeout : Nat) (evs : List LifeJudge.Ev) :
    ∀ v ∈ LifeJudge.runBoth { insts := ids.map (fun i => ({ id := i } : DInst)), peers := peers, timeout := timeout }
      { timeout := timeout, now := 0 } evs, v = "ok" :=
  LifeJudge.judge_sound' _ evs (LifeJudge.driver_init_fresh ids peers timeout)

/-- The shipped defect (repaired by a `fix:` commit): contributions were accepted from any peer and
    commit compared only counts — with participants {1,3,5} at instance 3, its own entry, a contribution
    from listed peer 1 and one from unlisted peer 2 made three, and the commit went through although 5
    never contributed.  In the fixed model that very event sequence is refused at the commit. -/
theorem C17_legacy_counterexample :
    let c0 : Cluster := { insts := [{ id := 1 }, { id := 2 }, { id := 3 }, { id := 5 }], peers := [1, 2, 3, 5], timeout := 1000 }
    let c1 := (onPrepare c0 3 1 "DW/a" 2 [1, 3, 5]).1
    let c2 := (onPrepare c1 1 1 "DW/a" 2 [1, 3, 5]).1
    let c3 := (onPrepare c2 5 1 "DW/a" 2 [1, 3, 5]).1
    let c4 := (onPrepare c3 2 1 "DW/a" 2 [2, 3]).1
    let c5 := (onExecute c4 2 1 "DW/a").1
    let c6 := (onExecute c5 1 1 "DW/a").1
    (onExecute c4 2 1 "DW/a").2 = .refused ∧ (onCommit c6 3 1 "DW/a").2 = .refused := by
  decide

/-- **tie by translation.** The expiry-on-read of `active` and the completeness guards of `onCommit` are the functions
    translated on every run from the Go source of `getGeneration` (generation.go) and of the checks at the top of
    `OnCommit` (service.go).  The Go keeps two maps, sharedSecrets and sharedVVecs, filled together; the model keeps one
    list, `contributed`: hence its length and its membership test stand in both argument places. -/
theorem C17_kernel_is_source (c : Cluster) (x : DInst) (acct : String) (s : Session) :
    active c x acct = Dirk.activeWrap c x acct ∧
    Dirk.commitChecks s = Dirk.Gen.commitAcceptsGen s.contributed.length s.contributed.length s.participants.length
      (s.participants.map (fun p => (s.contributed.contains p, s.contributed.contains p))) :=
  ⟨Dirk.active_eq_gen c x acct, Dirk.commitChecks_eq_gen s⟩

end Dirk.Dkg
