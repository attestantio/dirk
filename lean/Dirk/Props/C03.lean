/-
  C03 — Slashing protection survives a crash at any instant (partial: disk durability assumed).

  Micro-step model with crashes (Dirk.Model.Crash): requests run up to their rules verdict, approved
  ones become in-flight, are signed later in any order, and a crash — between any two micro-steps,
  any number of times — drops everything volatile and keeps exactly the store.  For every
  configuration, pre-existing store and execution:
    * by the time a signature is produced (and ever after, across crashes) the store's record for the
      key covers it (recorded before released);
    * every request that conflicts with a released signature is refused, whatever happened in between;
    * the released signatures of a key are pairwise non-slashable / have pairwise different slots.
  Assumed: a store call that returned is durable (badger SyncWrites), badger recovers what it synced.

  Requests include the operations that do not sign (account creation, account and wallet lock / unlock,
  the slashing-protection import command — all unrestricted — and the raw rules-level import).  The raw
  import OVERWRITES the record of its key, so the executions considered contain only raw imports that
  cover what the instance has approved so far for that key (`MStep.request` carries `Op.safeAt`, i.e.
  `ImportCovers`); a raw import below that defeats the property with or without crashes (Props/C01.lean,
  `C01_lowering_import_counterexample`).
-/
import Dirk.Lemmas.Crash
-- the two below: lib/props.py audits `facts_*` theorems from this property's module; no name of them is used here
import Dirk.Props.FactsResults
import Dirk.Props.FactsStore

namespace Dirk
open Spec

/-- **C03 (recorded before released).** Every attestation that is in flight (approved, about to be
    signed) or already released is covered by the stored record of its key, in every reachable state
    of every execution with crashes; likewise proposals. -/
theorem C03_recorded_before_release (cfg : Config) (db0 : Db) (m : MState) (hr : MReach cfg db0 m) :
    (∀ e, e ∈ m.inflightAtt ∨ e ∈ m.releasedAtt → Covers m.inst.db e.1 e.2.src e.2.tgt) ∧
    (∀ e, e ∈ m.inflightProp ∨ e ∈ m.releasedProp → PCovers m.inst.db e.1 e.2.slot) := by
  have h := mreach_inv hr
  exact ⟨fun e he => h.att.covered e (h.attIn e he), fun e he => h.prop.covered e (h.propIn e he)⟩

/-- **C03 (refused after any crash).** In any reachable state — in particular after a kill and restart
    on the same directory — an attestation request for a key that double-votes with, surrounds or is
    surrounded by a signature already released for that key is not approved; a proposal at or below a
    released slot is not approved. -/
theorem C03_refuses_after_crash (cfg : Config) (db0 : Db) (m : MState) (hr : MReach cfg db0 m) :
    (∀ e ∈ m.releasedAtt, ∀ (r : AttReq) (f : Faults),
        (r.tgt = e.2.tgt ∨ (e.2.src < r.src ∧ r.tgt < e.2.tgt) ∨ (r.src < e.2.src ∧ e.2.tgt < r.tgt)) →
        (onAttest m.inst.db e.1 r f).1 ≠ .approved) ∧
    (∀ e ∈ m.releasedProp, ∀ (r : PropReq) (f : Faults), r.slot ≤ e.2.slot →
        (onPropose m.inst.db e.1 r f).1 ≠ .approved) := by
  obtain ⟨ha, hp⟩ := C03_recorded_before_release cfg db0 m hr
  -- an approved request lies strictly above everything the record of its key covers
  constructor
  · intro e he r f hconf happ
    obtain ⟨st, hf, hok, _⟩ := (onAttest_cases m.inst.db e.1 r f).resolve_left (·.2 happ)
    have := hok.above ((ha e (.inr he)).le hf).1 ((ha e (.inr he)).le hf).2
    omega
  · intro e he r f hle happ
    obtain ⟨st, hf, hok, _⟩ := (onPropose_cases m.inst.db e.1 r f).resolve_left (·.2 happ)
    have := (pcovers_put hf hok).2.2 _ (hp e (.inr he))
    omega

/-- **C03 (no slashable pair is ever released, crashes included).** -/
theorem C03_released_never_slashable (cfg : Config) (db0 : Db) (m : MState) (hr : MReach cfg db0 m) :
    (∀ a ∈ m.releasedAtt, ∀ b ∈ m.releasedAtt, a.1 = b.1 → a ≠ b →
        ¬ Slashable (voteOf a.2) (voteOf b.2)) ∧
    (∀ a ∈ m.releasedProp, ∀ b ∈ m.releasedProp, a.1 = b.1 → a ≠ b → a.2.slot ≠ b.2.slot) :=
  have h := mreach_inv hr
  ⟨fun a ha b hb => h.att.mono.not_slashable (h.attIn a (.inr ha)) (h.attIn b (.inr hb)),
   fun a ha b hb => h.prop.mono.slot_ne (h.propIn a (.inr ha)) (h.propIn b (.inr hb))⟩

/-- non-vacuity: a crash between approval and signing is a real transition of the model and leaves
    the record moved with nothing released -/
example (m : MState) : MStep m { m with inflightAtt := [], inflightProp := [] } := MStep.crash m

end Dirk
