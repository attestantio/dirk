/-
  C13 — Invalid or failed key-generation exchanges create no account anywhere.

  On the cluster model: a contribution whose share does not match its vector, whose vector does not
  have exactly threshold entries, or that comes from a peer outside the participant list is refused and
  stores nothing; accounts are created by a successful commit only, a commit needs every listed
  participant's contribution, and the initiator sends commits only after every prepare and execute
  succeeded — so a lost message or a rejected contribution ends in an error with no account on any
  instance.  With vectors of exactly threshold length the commit-time aggregation stays in range (the
  shipped code did not check the length and could index out of range).
-/
import Dirk.Lemmas.DkgLife
import Dirk.Props.Kernels.Dkg

namespace Dirk.Dkg

/-- **C13 (reject).** -/
theorem C13_reject (c : Cluster) (j caller : Nat) (acct : String) (valid : Bool) (vlen : Nat) (s : Session)
    (hs : sessionOf c j acct = some s)
    (hbad : valid = false ∨ vlen ≠ s.threshold ∨ caller ∉ s.participants) :
    (onContribute c j caller acct valid vlen).2 ≠ .ok ∧
    sessionOf (onContribute c j caller acct valid vlen).1 j acct = some s := by
  obtain ⟨hr, hw⟩ := onContribute_spec c j caller acct valid vlen
  have hno : (onContribute c j caller acct valid vlen).2 ≠ .ok := by
    intro hk
    obtain ⟨_, s', hs', hv, hl, hm⟩ := hr.mp hk
    cases hs.symm.trans hs'
    rcases hbad with hb | hb | hb
    · rw [hb] at hv; cases hv
    · exact hb hl
    · exact hb hm
  refine ⟨hno, ?_⟩
  rw [hw.session, if_pos ⟨rfl, rfl⟩, hs]
  simp only [Option.map, if_neg hno]

/-- **C13 (only a successful commit creates an account).** -/
theorem C13_accounts_only_by_commit (c : Cluster) (i caller k : Nat) (acct name : String) (t : Nat) (parts : List Nat)
    (valid : Bool) (vlen : Nat) :
    holdsAccount (onPrepare c i caller acct t parts).1 k name = holdsAccount c k name ∧
    holdsAccount (onContribute c i caller acct valid vlen).1 k name = holdsAccount c k name ∧
    holdsAccount (onExecute c i caller acct).1 k name = holdsAccount c k name ∧
    holdsAccount (onAbort c i caller acct).1 k name = holdsAccount c k name ∧
    ((onCommit c i caller acct).2 ≠ .ok → holdsAccount (onCommit c i caller acct).1 k name = holdsAccount c k name) :=
  ⟨(onPrepare_spec c i caller acct t parts).2.account_eq k name,
   (onContribute_spec c i caller acct valid vlen).2.account_eq k name,
   (onExecute_spec c i caller acct).2.account k name,
   (onAbort_spec c i caller acct).2.account_eq k name,
   fun h => (onCommit_refused_writes h).account_eq k name⟩

/-- **C13 (client view).** A generation in which a message is lost or a contribution is rejected
    reports an error and leaves no account (with a single participant no message is exchanged at all). -/
theorem C13_no_account (npeers n t : Nat) (wd ex perm : Bool) (f : GenFault)
    (hf : f = .lost ∨ f = .badContribution) :
    generateOutcome npeers n t wd ex perm f = (false, false) ∨
      (n = 1 ∧ generateOutcome npeers n t wd ex perm f = generateOutcome npeers n t wd ex perm .none) := by
  unfold generateOutcome
  by_cases h1 : (!generateAccepts n t) = true
  · simp [h1]
  · by_cases h2 : ex = true
    · simp [h2]
    · by_cases h3 : (!perm) = true
      · simp [h3]
      · by_cases h4 : n = 1
        · right; exact ⟨h4, by simp [h4]⟩
        · left
          rcases hf with hf | hf <;> subst hf <;> simp [h1, h2, h3, h4]

/-- **C13 (no crash).** Vectors accepted by the fixed handler all have threshold length, so the
    index-wise aggregation at commit stays inside its threshold-sized array. -/
theorem C13_no_crash (t : Nat) (vlens : List Nat) (h : ∀ l ∈ vlens, fixedAccepts true l t true = true) :
    aggregationInRange t vlens = true := by
  simp only [aggregationInRange, List.all_eq_true, decide_eq_true_eq]
  intro l hl
  by_cases e : l = t
  · exact Nat.le_of_eq e
  · exact absurd (h l hl) (by rw [fixed_rejects_wrong_length _ _ _ _ e]; decide)

/-- The shipped defect (repaired by a `fix:` commit): the handler accepted a verifying contribution of
    any vector length; with threshold 2 a vector of length 3 was accepted and the aggregation indexed
    out of range. -/
theorem C13_legacy_counterexample : legacyAccepts true 3 2 true = true ∧ aggregationInRange 2 [2, 3] = false := by
  decide

/-- **tie by translation.** What the contribution handler accepts (`fixedAccepts`: the contribution verifies, its
    vector has exactly `threshold` entries, the sender is a listed participant) is the function translated on every
    run from the acceptance conditions of `OnContribute` (services/process/standard/service.go). -/
theorem C13_kernel_is_source (valid : Bool) (vlen threshold : Nat) (listed : Bool) :
    fixedAccepts valid vlen threshold listed = Dirk.Gen.fixedAcceptsGen valid vlen threshold listed :=
  Dirk.fixedAccepts_eq_gen valid vlen threshold listed

end Dirk.Dkg
