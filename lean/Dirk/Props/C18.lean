/-
  C18 — Listing shows all and only the accounts the client may access.

  Lister model (Dirk.Model.Lister): for every population, permission configuration, client and list of
  requested paths, the listing contains an account iff it exists, the client has the access permission
  for its canonical name, and some requested path names its wallet and (has no account pattern or its
  compiled pattern matches the account name).  Entries are the stored accounts themselves (own name,
  own key).  An account created through dirk is listed under the same conditions.  That the compiled
  pattern finds every whole-name match of the requested one is `C18_complete_whole_name` (the lister
  anchors the pattern as a string without grouping, which can only widen what matches:
  Dirk.Lemmas.ListerAnchor); it can find more, and over-listing inside accessible accounts of a
  requested wallet is not a violation of the property as stated.  `C18_kernel_is_source`: the model's
  lister is the function translated from the Go source.
-/
import Dirk.Lemmas.ListerAnchor
import Dirk.Props.Kernels.Lister

namespace Dirk

theorem mem_listAccounts (cfg : Config) (client : String) (paths : List String) (a : Account) :
    a ∈ listAccounts cfg client paths ↔
      a ∈ cfg.accounts ∧ check cfg.access client (a.wallet ++ "/" ++ a.name) opAccess = true ∧
      ∃ p ∈ paths, pathSelects p a := by
  unfold listAccounts pathSelects
  rw [List.mem_flatMap]
  constructor
  · rintro ⟨p, hp, hm⟩
    split at hm
    · cases hm
    · rename_i w re? hlp
      simp only [List.mem_filter, beq_iff_eq, Bool.and_eq_true] at hm
      obtain ⟨⟨hacc, rfl⟩, hre, hchk⟩ := hm
      refine ⟨hacc, hchk, p, hp, ?_⟩
      cases re? with
      | none => exact .inl hlp
      | some r => exact .inr ⟨r, hlp, hre⟩
  · rintro ⟨hacc, hchk, p, hp, hsel⟩
    refine ⟨p, hp, ?_⟩
    rcases hsel with h | ⟨r, h, hs⟩
    · rw [h]
      simp only [List.mem_filter, beq_self_eq_true, Bool.and_eq_true, hacc, hchk, and_self]
    · rw [h]
      simp only [List.mem_filter, beq_self_eq_true, Bool.and_eq_true, hacc, hchk, hs, and_self]

/-- **C18 (sound).** Nothing is listed without the access permission or outside the requested wallets. -/
theorem C18_sound (cfg : Config) (client : String) (paths : List String) (a : Account)
    (h : a ∈ listAccounts cfg client paths) :
    check cfg.access client (a.wallet ++ "/" ++ a.name) opAccess = true ∧
    ∃ p ∈ paths, ∃ re, listerPath p = some (a.wallet, re) := by
  obtain ⟨_, hc, p, hp, hs⟩ := (mem_listAccounts cfg client paths a).mp h
  refine ⟨hc, p, hp, ?_⟩
  rcases hs with h1 | ⟨r, h1, _⟩
  · exact ⟨none, h1⟩
  · exact ⟨some r, h1⟩

/-- **C18 (complete).** Every existing account the client may access that a requested path selects is listed. -/
theorem C18_complete (cfg : Config) (client : String) (paths : List String) (a : Account)
    (ha : a ∈ cfg.accounts) (hc : check cfg.access client (a.wallet ++ "/" ++ a.name) opAccess = true)
    (hs : ∃ p ∈ paths, pathSelects p a) : a ∈ listAccounts cfg client paths :=
  (mem_listAccounts cfg client paths a).mpr ⟨ha, hc, hs⟩

/-- **C18 (entries carry their own name and key).** A listed entry is one of the stored accounts. -/
theorem C18_fields (cfg : Config) (client : String) (paths : List String) (a : Account)
    (h : a ∈ listAccounts cfg client paths) : a ∈ cfg.accounts :=
  ((mem_listAccounts cfg client paths a).mp h).1

/-- **C18 (dynamic creation).** An account created through dirk is listed, without restart, under
    exactly the same conditions as any other, and creation changes neither the other accounts nor the
    permissions. -/
theorem C18_dynamic (cfg cfg' : Config) (client path : String) (pk : Bytes)
    (h : createAccount cfg client path pk = some cfg') :
    ∃ w n, walletAndAccount path = some (w, n) ∧ cfg'.access = cfg.access ∧
      cfg'.accounts = cfg.accounts ++ [{ wallet := w, name := n, pubkey := pk }] ∧
      ∀ (c : String) (paths : List String),
        check cfg.access c (w ++ "/" ++ n) opAccess = true →
        (∃ p ∈ paths, pathSelects p { wallet := w, name := n, pubkey := pk }) →
        ({ wallet := w, name := n, pubkey := pk } : Account) ∈ listAccounts cfg' c paths := by
  revert h
  fun_cases createAccount cfg client path pk
  case case6 w n hwa _ _ _ _ =>
    exact fun h => Option.some.inj h ▸ ⟨w, n, hwa, rfl, rfl, fun c paths hc hs =>
      C18_complete _ c paths _ (List.mem_append_right _ List.mem_cons_self) hc hs⟩
  all_goals nofun

/-- non-vacuity -/
example : (listAccounts { accounts := [{ wallet := "W", name := "A", pubkey := [1] }],
                          access := [("c", [{ wallet := Re.star Re.anyAll, account := Re.star Re.anyAll, ops := ["All"] }])] }
            "c" ["W"]).length = 1 := by decide +kernel

/-- **C18 (complete, whole-name reading).** `hshape` is the fact about the string-level parser that the
    lister's anchored string parses to the AST of the pattern with `bol`/`eol` put where `listerAnchor`
    put `^`/`$`; it is decidable and evaluated by the driver for every requested pattern. -/
theorem C18_complete_whole_name (cfg : Config) (client : String) (paths : List String) (a : Account)
    (ha : a ∈ cfg.accounts) (hc : check cfg.access client (a.wallet ++ "/" ++ a.name) opAccess = true)
    (path w pat : String) (hmem : path ∈ paths)
    (hp : walletAndAccount path = some (w, pat)) (hshape : pat ≠ "" → ListerShapeOKGen pat)
    (hm : Spec.pathMatches path a = true) : a ∈ listAccounts cfg client paths :=
  C18_complete cfg client paths a ha hc
    ⟨path, hmem, lister_complete_whole_name_gen path a w pat hp hshape hm⟩

/-- the anchoring only widens: a whole-name match of `r` is found by the search for the ungrouped anchoring of `r` -/
theorem C18_anchor_only_widens (r : Re) (w : String) :
    Re.fullMatch r w = true → Re.search (ungroupedAnchor r) w = true :=
  fullMatch_imp_search_ungrouped r w

/-- **C18 (the lister is the source).** For every configuration, client and list of paths, the model's `listAccounts` is the
    path-by-path filter whose predicate is the function translated on every run from the Go source of `ListAccounts`
    (services/lister/standard/listaccounts.go): regex first (absent = every account), then the access check on
    `wallet/account` under "Access account", then the public key, then the rules' answer; the string that is compiled is the
    translated anchoring (`^`/`$` added unless already there) and equals the model's `listerAnchor`; a path is skipped, taken
    whole or taken through the regex exactly as `listerPath` says. -/
theorem C18_kernel_is_source (cfg : Config) (client : String) (paths : List String) :
    (listAccounts cfg client paths = paths.flatMap (fun path =>
      match listerPath path with
      | none => []
      | some (w, re?) =>
        (cfg.accounts.filter (fun a => a.wallet == w)).filter (fun a =>
          Gen.listAccountGen re?.isSome (re?.all (fun r => Re.search r a.name))
            (check cfg.access client (Gen.listCheckedNameFnGen a.wallet a.name) Gen.listActionGen) true true))) ∧
    (∀ s : String, Gen.listAnchorGen s = listerAnchor s) ∧
    (∀ path, listPathGenOf path false false = listPathCode (listerPath path)) ∧
    Gen.listActionGen = opAccess :=
  ⟨listAccounts_eq_gen cfg client paths, listAnchor_eq_model, listPathGenOf_eq_code, list_shape_is_source.2.1⟩

end Dirk
