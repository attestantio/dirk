/-
  C06 — Signing fails closed.

  For all five signing operations of the signer model, under every fault plan (failing fetches at any
  positions, a failing store call whose write landed or not, failing signing calls at any positions,
  accounts that cannot say whether they are unlocked),
  every configuration, client, addressing mode and data: a response position carries a signature if
  and only if its state is SUCCEEDED, and the response has one position per request (one for an empty
  request).  An injected fault on the path leaves no signature: stated for the two single operations with
  rules state (`C06_att_fault`, `C06_prop_fault`) and, for batches, at the level of the rules (`C06_batch_*`).
  Under the lock-state fault no position of any request is signed and the instance state is untouched
  (`C06_lock_state_fault_*`).

  The single operations are instances of `signSingle`, the batch operations of `signBatch` (Lemmas/Signer.lean); the
  batch theorems are the case `k = n` of those about a ruler that answers for `k` positions (Lemmas/ShortRules.lean).
-/
import Dirk.Props.FactsResults  -- lib/props.py audits `facts_*` theorems from this property's module; no name of it is used here
import Dirk.Props.Kernels.SignLoop
import Dirk.Lemmas.ShortRules

namespace Dirk

/-- **C06 (single attestation).** -/
theorem C06_att (s : Inst) (c : String) (a : Addr) (d : AttData) (f : Faults) (sf : Bool) :
    (signAtt s c a d f sf).2.closed :=
  signSingle_closed (signAtt_eq s c a d f sf).symm

/-- **C06 (proposal).** -/
theorem C06_prop (s : Inst) (c : String) (a : Addr) (d : PropData) (f : Faults) (sf : Bool) :
    (signProp s c a d f sf).2.closed :=
  signSingle_closed (signProp_eq s c a d f sf).symm

/-- **C06 (generic).** -/
theorem C06_sign (s : Inst) (c ip : String) (a : Addr) (d : SignData) (sf lf : Bool) :
    (signGeneric s c ip a d sf lf).2.closed :=
  signSingle_closed (signGeneric_eq s c ip a d sf lf).symm

/-- **C06 (batch attestations), position by position.** -/
theorem C06_atts (s : Inst) (c : String) (items : List (Addr × AttData)) (f : Faults) (sf : List Nat) :
    ∀ p ∈ (signAtts s c items f sf).2, p.closed :=
  let ⟨_, h⟩ := signAtts_ruled s c items f sf
  h.full.1

/-- **C06 (multisign), position by position.** -/
theorem C06_msign (s : Inst) (c ip : String) (items : List (Addr × SignData)) (sf : List Nat) (lf : Bool) :
    ∀ p ∈ (multisign s c ip items sf lf).2, p.closed :=
  (multisign_ruled s c ip items sf lf).full.1

/-- **C06 (shape, batch attestations).** One response position per request; exactly one for an
    empty request. -/
theorem C06_shape_atts (s : Inst) (c : String) (items : List (Addr × AttData)) (f : Faults) (sf : List Nat) :
    (signAtts s c items f sf).2.length = max 1 items.length :=
  let ⟨_, h⟩ := signAtts_ruled s c items f sf
  h.full.2

/-- **C06 (shape, multisign).** -/
theorem C06_shape_msign (s : Inst) (c ip : String) (items : List (Addr × SignData)) (sf : List Nat) (lf : Bool) :
    (multisign s c ip items sf lf).2.length = max 1 items.length :=
  (multisign_ruled s c ip items sf lf).full.2

/-- **C06 (faults close the path, single attestation).** A failing state read, a failing state
    write (whether or not the write landed) or a failing signing call each yield no signature. -/
theorem C06_att_fault (s : Inst) (c : String) (a : Addr) (d : AttData) (f : Faults) (sf : Bool)
    (h : f.fetchFail.contains 0 = true ∨ f.storeFail = true ∨ sf = true) :
    (signAtt s c a d f sf).2.root = none :=
  signSingle_fault (signAtt_eq s c a d f sf).symm (or_assoc.mpr h) fun h _ => onAttest_fault h

/-- **C06 (faults close the path, proposal).** -/
theorem C06_prop_fault (s : Inst) (c : String) (a : Addr) (d : PropData) (f : Faults) (sf : Bool)
    (h : f.fetchFail.contains 0 = true ∨ f.storeFail = true ∨ sf = true) :
    (signProp s c a d f sf).2.root = none :=
  signSingle_fault (signProp_eq s c a d f sf).symm (or_assoc.mpr h) fun h _ => onPropose_fault h

/-- **C06 (a failing batch write fails every position).** -/
theorem C06_batch_store_fault {α : Type} (req : α → AttReq) (db : Db) (items : List (Bytes × α)) (f : Faults)
    (h : f.storeFail = true) : (onAttestBatch req db items f).1 = none := by
  unfold onAttestBatch
  cases evalBatch req db f 0 items with
  | none => rfl
  | some evs => simp only [storeMany, h, ↓reduceIte]; split <;> rfl

/-- **C06 (a failing read anywhere in a batch fails every position).** -/
theorem C06_batch_fetch_fault {α : Type} (req : α → AttReq) (db : Db) (f : Faults) :
    ∀ (items : List (Bytes × α)) (i j : Nat), j < items.length → f.fetchFail.contains (i + j) = true →
      evalBatch req db f i items = none := by
  intro items i j hj hf
  fun_induction evalBatch req db f i items generalizing j with
  | case1 => simp at hj
  | case2 | case3 => rfl
  | case4 i pk a rest st hst l hl ih =>
    -- the failing read is not this one (it returned `st`), so it is among the rest — which returned `l`
    cases j with
    | zero => rw [Nat.add_zero] at hf; rw [hf, fetchAtt_fail_true] at hst; cases hst
    | succ j => rw [ih j (by simpa using hj) (by rw [show i + 1 + j = i + (j + 1) by omega]; exact hf)] at hl; cases hl

/-! ## The lock-state fault

`lockStateFail`: every account fetched for the request answers `IsUnlocked()` with an error.  In the Go,
`unlockAccount` turns that error into FAILED, `preCheck` returns it, and
* the single endpoints return `(checkRes, nil)` right there — before the ruler is called;
* `SignBeaconAttestations` / `Multisign` pre-check EVERY entry (an entry that fails gets its own pre-check
  result, one that passes stays UNKNOWN), and if any entry's result is neither UNKNOWN nor SUCCEEDED they
  return `(results, nil)` — before `RunRules`.  Under this fault no entry passes, so every entry carries its
  own pre-check result: DENIED if the account does not resolve or the permission check refuses it (both come
  before the lock state is asked), FAILED otherwise — also for an account whose passphrase is unknown.
The rules are never consulted, nothing is signed, nothing is written. -/

/-- **C06 (lock-state fault, single attestation).** No signature, not SUCCEEDED, and the whole instance state
    (`db`, `attLog`, `propLog`, `signLog`, `cfg`) is what it was. -/
theorem C06_lock_state_fault_att (s : Inst) (c : String) (a : Addr) (d : AttData) (f : Faults) (sf : Bool)
    (h : f.lockStateFail = true) :
    (signAtt s c a d f sf).2.root = none ∧ (signAtt s c a d f sf).2.res ≠ .succeeded ∧
    (signAtt s c a d f sf).1 = s :=
  signSingle_refused (preCheck_lock_state_fault ..) (h ▸ signAtt_eq s c a d f sf).symm

/-- **C06 (lock-state fault, proposal).** -/
theorem C06_lock_state_fault_prop (s : Inst) (c : String) (a : Addr) (d : PropData) (f : Faults) (sf : Bool)
    (h : f.lockStateFail = true) :
    (signProp s c a d f sf).2.root = none ∧ (signProp s c a d f sf).2.res ≠ .succeeded ∧
    (signProp s c a d f sf).1 = s :=
  signSingle_refused (preCheck_lock_state_fault ..) (h ▸ signProp_eq s c a d f sf).symm

/-- **C06 (lock-state fault, generic).** -/
theorem C06_lock_state_fault_sign (s : Inst) (c ip : String) (a : Addr) (d : SignData) (sf : Bool) :
    (signGeneric s c ip a d sf true).2.root = none ∧ (signGeneric s c ip a d sf true).2.res ≠ .succeeded ∧
    (signGeneric s c ip a d sf true).1 = s :=
  signSingle_refused (preCheck_lock_state_fault ..) (signGeneric_eq s c ip a d sf true).symm

/-- **C06 (lock-state fault, batch attestations).** For every item list (empty, malformed somewhere, any mix
    of unknown / forbidden / locked / good accounts, duplicates): NO position carries a signature or is
    SUCCEEDED, and the whole instance state is what it was. -/
theorem C06_lock_state_fault_atts (s : Inst) (c : String) (items : List (Addr × AttData)) (f : Faults)
    (sf : List Nat) (h : f.lockStateFail = true) :
    (∀ p ∈ (signAtts s c items f sf).2, p.root = none ∧ p.res ≠ .succeeded) ∧
    (signAtts s c items f sf).1 = s := by
  rw [signAtts_eq, h]
  exact signBatch_lock_unsigned ..

/-- **C06 (lock-state fault, multisign).** -/
theorem C06_lock_state_fault_msign (s : Inst) (c ip : String) (items : List (Addr × SignData)) (sf : List Nat) :
    (∀ p ∈ (multisign s c ip items sf true).2, p.root = none ∧ p.res ≠ .succeeded) ∧
    (multisign s c ip items sf true).1 = s := by
  rw [multisign_eq]
  exact signBatch_lock_unsigned ..

/-! ## A ruler that answers for fewer requests than the batch holds

dirk's own ruler always hands back one verdict per request; the signer (services/signer/standard/
signbeaconattestations.go, multisign.go) nevertheless walks `len(rulesResults)` positions only and leaves the others
UNKNOWN without a signature.  Model: Dirk/Model/ShortRules.lean (`signAttsShort`, `multisignShort`: the verdict
list cut to its first `k` entries; exercised against the implementation through fault letter `r<k>`).
Proofs: Dirk/Lemmas/ShortRules.lean (`Ruled`).  Stated for every state, client, batch, fault plan and cut `k`. -/

/-- **C06 (positions nobody ruled on are never signed, batch attestations).** -/
theorem C06_unruled_atts (s : Inst) (c : String) (items : List (Addr × AttData)) (f : Faults) (sf : List Nat) (k : Nat) :
    (∀ p ∈ (signAttsShort s c items f sf k).2.drop k, p.root = none ∧ p.res ≠ .succeeded) ∧
    (∀ p ∈ (signAttsShort s c items f sf k).2, p.closed) ∧
    (signAttsShort s c items f sf k).2.length = max 1 items.length ∧
    (∃ rel, (signAttsShort s c items f sf k).1.attLog = s.attLog ++ rel ∧ rel.length ≤ k) := by
  obtain ⟨_, h⟩ := signAtts_ruled s c items f sf
  obtain ⟨h1, h2, h3, rel, hk, h4⟩ := h.unruled k
  refine ⟨h1, h2, h3, rel, ?_, hk⟩
  rcases h4 with ⟨h4, rfl⟩ | h4 <;> simp [h4]

/-- **C06 (positions nobody ruled on are never signed, multisign).** -/
theorem C06_unruled_msign (s : Inst) (c ip : String) (items : List (Addr × SignData)) (sf : List Nat) (lf : Bool) (k : Nat) :
    (∀ p ∈ (multisignShort s c ip items sf lf k).2.drop k, p.root = none ∧ p.res ≠ .succeeded) ∧
    (∀ p ∈ (multisignShort s c ip items sf lf k).2, p.closed) ∧
    (multisignShort s c ip items sf lf k).2.length = max 1 items.length ∧
    (∃ rel, (multisignShort s c ip items sf lf k).1.signLog = s.signLog ++ rel ∧ rel.length ≤ k) := by
  obtain ⟨h1, h2, h3, rel, hk, h4⟩ := (multisign_ruled s c ip items sf lf).unruled k
  refine ⟨h1, h2, h3, rel, ?_, hk⟩
  rcases h4 with ⟨h4, rfl⟩ | h4 <;> simp [h4]

/-- **C06 (the cut model is the uncut one where the ruler answered):** with a full-length list nothing changes, and
    in any case the answered positions, and the rules' state, are those of `signAtts` / `multisign` — so every theorem
    about those (C01, C02, C05, C06_atts, …) speaks about the answered part of a cut batch too. -/
theorem C06_unruled_is_prefix (s : Inst) (c ip : String) (atts : List (Addr × AttData)) (gens : List (Addr × SignData))
    (f : Faults) (sf : List Nat) (lf : Bool) (k : Nat) :
    (atts.length ≤ k → signAttsShort s c atts f sf k = signAtts s c atts f sf) ∧
    (gens.length ≤ k → multisignShort s c ip gens sf lf k = multisign s c ip gens sf lf) ∧
    (signAttsShort s c atts f sf k).2.take k = (signAtts s c atts f sf).2.take k ∧
    (multisignShort s c ip gens sf lf k).2.take k = (multisign s c ip gens sf lf).2.take k ∧
    (signAttsShort s c atts f sf k).1.db = (signAtts s c atts f sf).1.db := by
  obtain ⟨_, h⟩ := signAtts_ruled s c atts f sf
  obtain ⟨a1, a2, a3⟩ := h.prefix k
  obtain ⟨g1, g2, -⟩ := (multisign_ruled s c ip gens sf lf).prefix k
  refine ⟨a1, g1, a2, g2, ?_⟩
  rcases a3 with a3 | ⟨_, _, a3, a4⟩
  · rw [a3]
  · rw [a3, a4]

/-- **C06 (the signing loop is the source).** What the model does at each visited position of a batch — `signEvs` for
    `SignBeaconAttestations`, `signGenerics` for `Multisign` — is, for every verdict list, fault plan and start index, the
    indexed map of the position function translated on every run from the Go source of the final loop of those two
    functions (verdict switch arm by arm, the error checks after it, the assignment of the signature); and that loop, in
    the source as it is now, runs over `len(rulesResults)` positions of a result slice created UNKNOWN — the regenerated
    fact behind the `take k` of Model/ShortRules.lean. -/
theorem C06_kernel_is_source :
    (∀ (sf : List Nat) (i : Nat) (evs : List (Bytes × AttData × Verdict)),
      signEvs sf i evs = (evs.zipIdx i).map (fun e =>
        (posOfGen (Gen.signLoopPosAttGen (verdictCode e.1.2.2) e.1.2.1.signingRoot.isNone false (sf.contains e.2))
            e.1.2.1.signingRoot,
         if (Gen.signLoopPosAttGen (verdictCode e.1.2.2) e.1.2.1.signingRoot.isNone false (sf.contains e.2)).2
         then some (e.1.1, e.1.2.1) else none))) ∧
    (∀ (adminIPs : List String) (ip : String) (sf : List Nat) (i : Nat) (keyed : List (Bytes × SignData)),
      signGenerics adminIPs ip sf i keyed = (keyed.zipIdx i).map (fun e =>
        (posOfGen (Gen.signLoopPosMultiGen (verdictCode (onSign adminIPs ip (e.1.2.domain.getD [])))
            e.1.2.signingRoot.isNone (sf.contains e.2)) e.1.2.signingRoot,
         if (Gen.signLoopPosMultiGen (verdictCode (onSign adminIPs ip (e.1.2.domain.getD [])))
            e.1.2.signingRoot.isNone (sf.contains e.2)).2 then some (e.1.1, e.1.2) else none))) ∧
    Gen.signLoopBoundAttGen = "len(rulesResults)" ∧ Gen.signLoopBoundMultiGen = "len(rulesResults)" ∧
    Gen.coreResultZeroIsUnknownGen = true :=
  ⟨signEvs_eq_gen_map, signGenerics_eq_gen_map, signLoopBound_is_rules_results.1, signLoopBound_is_rules_results.2.1,
   by decide⟩

namespace C06ex

def good : Account := { wallet := "w", name := "a", pubkey := List.replicate 48 7 }
/-- an account whose passphrase is not known to the unlocker -/
def locked : Account := { wallet := "w", name := "l", pubkey := List.replicate 48 8, unlockable := false }
def cfg : Config :=
  { accounts := [good, locked],
    access := [("c", [{ wallet := .star .any, account := .star .any, ops := ["All"] }])] }
def data : AttData :=
  { domain := some ([1, 0, 0, 0] ++ List.replicate 28 0), slot := 0, cidx := 0, bbr := some [], src := 1,
    srcRoot := some [], tgt := 2, tgtRoot := some [] }
def batch : List (Addr × AttData) := [({ name := "w/a" }, data), ({ name := "w/none" }, data), ({ name := "w/l" }, data)]

/-- without the fault: the good account passes, the locked one is DENIED … -/
example : preCheck cfg "c" { name := "w/a" } opAttest = .ok good := by decide +kernel
example : preCheck cfg "c" { name := "w/l" } opAttest = .error .denied := by decide +kernel
/-- … with it: both are FAILED (the error comes before any passphrase is tried); an unknown account and a
    client without permission stay DENIED (both are decided before the lock state is asked) -/
example : preCheck cfg "c" { name := "w/a" } opAttest true = .error .failed := by decide +kernel
example : preCheck cfg "c" { name := "w/l" } opAttest true = .error .failed := by decide +kernel
example : preCheck cfg "c" { name := "w/none" } opAttest true = .error .denied := by decide
example : preCheck cfg "other" { name := "w/a" } opAttest true = .error .denied := by decide

/-- a batch without the fault: the good position stays UNKNOWN, the others carry their own result … -/
example : (signAtts { cfg := cfg } "c" batch {}).2 = [⟨.unknown, none⟩, ⟨.denied, none⟩, ⟨.denied, none⟩] := by
  decide +kernel
/-- … and with it: every position carries its own pre-check result, none is UNKNOWN -/
example : (signAtts { cfg := cfg } "c" batch { lockStateFail := true }).2 =
    [⟨.failed, none⟩, ⟨.denied, none⟩, ⟨.failed, none⟩] := by
  decide +kernel

end C06ex

/-- non-vacuity: a concrete store fault turns an otherwise approved request into FAILED -/
example : (onAttest [] [7] ⟨domAttester, 1, 2⟩ { storeFail := true }).1 = .failed := by decide
example : (onAttest [] [7] ⟨domAttester, 1, 2⟩ { fetchFail := [0] }).1 = .failed := by decide

end Dirk
