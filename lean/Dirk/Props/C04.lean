/-
  C04 — Concurrent requests on a key behave as if processed one at a time (partial: scheduler).

  The lock protocol of `RunRules` is modelled as a transition system with any number of concurrent
  requests (Dirk.Model.Conc).  For every set of requests with duplicate-free key lists and every
  interleaving of their steps:
    * two different requests never own the same key (mutual exclusion);
    * every commit step equals the request's sequential meaning applied atomically to the store as it
      is at that moment (the linearisation point), and no other step changes the store;
    * hence the final store of any execution is the sequential object's result for the requests in the
      order of their commit steps, and each commit lies between the request's first and last step
      (the order is compatible with real time).
  On the side of the concrete model two facts are proved: the single attestation rule `onAttest` reads and
  writes only the record of its own key (`C04_footprint_attest`; no such statement for the proposal or the
  batch rule), and the locker and store calls of an attestation batch have the shape of the model's thread
  program (`C04_trace_is_protocol`), which is the call sequence translated from the Go source of `RunRules`
  (`C04_lock_protocol_is_source`).  No theorem builds a `Conc.Req` from a rule function or discharges
  `Footprint` for one: that the rules instantiate the abstract requests is by reading, not by proof.
  Not covered by proof: Go's mutex and scheduler implement the modelled semantics; real interleavings
  are sampled and steered by the check.
-/
import Dirk.Lemmas.ConcSafety
import Dirk.Lemmas.Coverage
import Dirk.Model.LockTrace
import Dirk.Props.Kernels.Ruler

namespace Dirk.Conc

variable {Val : Type}

/-- **C04 (mutual exclusion).** -/
theorem C04_mutual_exclusion (reqs : List (Req Val)) (db0 c0 : Key → Val) (hnd : ∀ r ∈ reqs, r.keys.Nodup)
    (s : CState Val) (hr : Reachable reqs db0 c0 s) (t₁ t₂ : Tid) (x₁ x₂ : TState Val) (k : Key)
    (h₁ : s.ts[t₁]? = some x₁) (h₂ : s.ts[t₂]? = some x₂) (o₁ : owns x₁ k) (o₂ : owns x₂ k) : t₁ = t₂ :=
  mutual_exclusion (inv_reachable reqs db0 c0 hnd s hr) t₁ t₂ x₁ x₂ k h₁ h₂ o₁ o₂

/-- **C04 (atomic commit = linearisation point).** -/
theorem C04_commit_atomic (reqs : List (Req Val)) (db0 c0 : Key → Val) (hnd : ∀ r ∈ reqs, r.keys.Nodup)
    (s s' : CState Val) (hr : Reachable reqs db0 c0 s) (t : Tid) (x : TState Val)
    (hx : s.ts[t]? = some x) (hf : Footprint x.req) (st : Step s t .commit s') :
    s'.db = applyReq x.req s.db ∧ ∀ (t' : Tid) (l : Label) (s'' : CState Val), Step s t' l s'' → l ≠ .commit → s''.db = s.db :=
  ⟨commit_atomic (inv_reachable reqs db0 c0 hnd s hr) hx hf st, fun _ _ _ st' hl => db_unchanged st' hl⟩

/-- **C04 (linearizability).** -/
theorem C04_linearizable (reqs : List (Req Val)) (db0 c0 : Key → Val) (hnd : ∀ r ∈ reqs, r.keys.Nodup)
    (hfp : ∀ r ∈ reqs, Footprint r) (tr : List (Tid × Label)) (s : CState Val)
    (he : Exec (initState reqs db0 c0) tr s) :
    s.db = (commitOrder (initState reqs db0 c0) tr).foldl (fun d r => applyReq r d) db0 :=
  linearizable reqs db0 c0 hnd hfp tr s he

/-- **C04 (compatible with real time).** Each request commits at most once, after its first step and
    before its last; so if request a finished before request b started, a's commit precedes b's. -/
theorem C04_real_time_order (reqs : List (Req Val)) (db0 c0 : Key → Val) (tr : List (Tid × Label)) (s : CState Val)
    (he : Exec (initState reqs db0 c0) tr s) (t : Tid) (i : Nat) (hi : tr[i]? = some (t, .commit)) :
    (∃ j, j < i ∧ tr[j]? = some (t, .pre)) ∧ (∀ j, tr[j]? = some (t, .finish) → i < j) ∧
    (∀ j, tr[j]? = some (t, .commit) → j = i) :=
  commit_between reqs db0 c0 tr s he t i hi

end Dirk.Conc

namespace Dirk

/-- **C04 (footprint of the attestation rule).** It reads and writes only the record of its own key:
    other keys' attestation records and all proposal records are untouched, and its verdict depends on
    the store only through its own key's record. -/
theorem C04_footprint_attest (db : Db) (pk : Bytes) (r : AttReq) (f : Faults) :
    (∀ pk', pk' ≠ pk → fetchAtt (onAttest db pk r f).2 pk' false = fetchAtt db pk' false) ∧
    (∀ pk', fetchProp (onAttest db pk r f).2 pk' false = fetchProp db pk' false) ∧
    (∀ db', fetchAtt db' pk false = fetchAtt db pk false → (onAttest db' pk r f).1 = (onAttest db pk r f).1) := by
  refine ⟨?_, fun pk' => onAttest_prop_frame db pk r f pk', fun db' h => onAttest_verdict_congr h⟩
  intro pk' hne
  rcases onAttest_cases db pk r f with ⟨h1, _⟩ | ⟨_, _, _, h1⟩
  · rw [h1]
  · rw [h1, fetchAtt_put_att_other hne]

/-- the store accesses inside a request: some reads, then at most one write -/
def ReadsThenWrite (inner : List LTok) : Prop :=
  ∃ n, inner = List.replicate n .fetch ∨ inner = List.replicate n .fetch ++ [.store, .stored]

theorem innerAtt_shape (db : Db) (pk : Bytes) (r : AttReq) : ReadsThenWrite (innerAtt db pk r) := by
  fun_cases innerAtt db pk r
  · exact ⟨1, .inl rfl⟩
  · exact ⟨1, .inr rfl⟩
  · exact ⟨1, .inl rfl⟩

theorem innerBatch_shape (db : Db) (ks : List Bytes) : ReadsThenWrite (innerBatch db ks) := by
  fun_induction innerBatch db ks with
  | case1 => exact ⟨0, .inr rfl⟩
  | case2 => exact ⟨1, .inl rfl⟩
  | case3 k rest st hf ih =>
    obtain ⟨n, h | h⟩ := ih
    · exact ⟨n + 1, .inl (by rw [h]; rfl)⟩
    · exact ⟨n + 1, .inr (by rw [h]; rfl)⟩

/-- **C04 (a request's call sequence is the model's thread program).** The calls one attestation
    batch makes are: PreLock, one Lock per resolved key in request order, PostLock, reads followed by
    at most one write, one Unlock per key in reverse order — or nothing at all when the request is
    refused before the rules (malformed, unknown/forbidden account, duplicate key). -/
theorem C04_trace_is_protocol (s : Inst) (c : String) (items : List (Addr × AttData)) (lf : Bool) :
    traceAtts s c items lf = [] ∨
    ∃ (keys : List Bytes) (inner : List LTok), traceAtts s c items lf = [.pre] ++ keys.map .lock ++ [.post] ++ inner ++ keys.reverse.map .unlock ∧
      ReadsThenWrite inner := by
  fun_cases traceAtts s c items lf
  case case5 _ _ _ _ keyed _ =>
    refine .inr ⟨_, _, rfl, ?_⟩
    clear_value keyed  -- `split` does not see through the `let`
    split
    · exact innerAtt_shape _ _ _
    · exact innerBatch_shape _ _
  all_goals exact .inl rfl

/-- **C04 (the lock protocol is the source).** For every list of public keys and every inner call sequence, the model's
    `lockWrap` is the call sequence generated from the Go source of `RunRules`; the source takes locks for exactly the three
    signing actions, keys them by the first 48 bytes of the public key, and (`decide` on the regenerated shape) calls
    PreLock, Lock/defer-Unlock per entry in order, PostLock, then the rules.  The kernel is regenerated from
    `services/ruler/golang/runner.go` on every run (factx/runrules.go); proofs in Props/Kernels/Ruler.lean. -/
theorem C04_lock_protocol_is_source :
    (∀ (keys : List Bytes) (inner : List LTok),
      lockWrap (keys.map toBytes48) inner = Gen.lockCallsTokGen LTok.pre LTok.post LTok.lock LTok.unlock keys inner) ∧
    Gen.runRulesLockingActionsGen = [opSign, opPropose, opAttest] ∧
    Gen.runRulesKeyWidthGen = 48 ∧ Gen.runRulesLockKeyWidthGen = 48 ∧
    Gen.runRulesLockProtocolGen =
      ["PreLock", "for-each-in-order: Lock(key48(PubKey)); defer Unlock(key48(PubKey))", "PostLock", "return runRules"] :=
  ⟨fun keys inner => ((lockCalls_eq_lockWrap keys inner).1).symm, runRules_shape_is_source.1, runRules_shape_is_source.2.1,
   runRules_shape_is_source.2.2.1, runRules_shape_is_source.2.2.2.2⟩

/-- **C04 (single rule for one entry, batch rule for more).** -/
theorem C04_rules_path_is_source :
    (∀ n, Gen.runRulesPathGen n true = 1 ↔ n > 1) ∧ (∀ n, Gen.runRulesPathGen n false = 0) :=
  ⟨runRulesPath_eq_model.1, runRulesPath_eq_model.2.2.1⟩

end Dirk
