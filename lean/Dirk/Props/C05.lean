/-
  C05 — Slashable message types can only be signed via the protected endpoints.

  Decision logic stated outright for the rule functions, lifted to the signer-level operations
  (every configuration, client, address, data, fault plan), and to every reachable instance state
  through the ghost logs of released signatures.
-/
import Dirk.Lemmas.Run
import Dirk.Props.Kernels.Rules
import Dirk.Props.Kernels.Dispatch

namespace Dirk

/-- **C05 (generic, single).** `SignGeneric` never returns a signature under the attester or proposer
    domain types, and under the voluntary-exit type only for a listed, non-empty source address. -/
theorem C05_generic_single (s : Inst) (c ip : String) (a : Addr) (d : SignData) (sf lf : Bool)
    (h : (signGeneric s c ip a d sf lf).2.root ≠ none) :
    GenericAllowed s.cfg.adminIPs ip (d.domain.getD []) := by
  rcases signSingle_cases (signGeneric_eq s c ip a d sf lf).symm with ⟨h0, _⟩ | ⟨_, _, _, _, hv, _⟩
  · exact absurd h0 h
  · exact onSign_approved hv

/-- a position carries a signature exactly when an entry is released -/
theorem signGenerics_root_iff (adminIPs : List String) (ip : String) (sf : List Nat) :
    ∀ (keyed : List (Bytes × SignData)) (i : Nat),
      ∀ p ∈ signGenerics adminIPs ip sf i keyed, (p.1.root ≠ none ↔ p.2 ≠ none) := by
  intro keyed i p hp
  rw [signGenerics_eq_map] at hp
  obtain ⟨e, _, rfl⟩ := List.mem_map.mp hp
  rw [signOne_eq]
  split
  · rename_i h; simpa using h.2.2
  · simp

/-- **C05 (generic, multi).** Every entry `Multisign` adds to the released log is allowed. -/
theorem C05_generic_multi (s : Inst) (c ip : String) (items : List (Addr × SignData)) (sf : List Nat) (lf : Bool) :
    ∀ e ∈ (multisign s c ip items sf lf).1.signLog,
      e ∈ s.signLog ∨ GenericAllowed s.cfg.adminIPs ip (e.2.domain.getD []) := by
  rw [multisign_eq]
  rcases signBatch_cases SignData.wellFormed s c opSign items lf with
    ⟨_, _, _, h⟩ | ⟨_, _, h⟩ | ⟨keyed, _, _, _, _, _, h⟩ <;> rw [h]
  · exact fun e he => Or.inl he
  · exact fun e he => Or.inl he
  · intro e he
    exact (List.mem_append.mp he).imp id (signGenerics_allowed _ _ _ _ _ e)

/-- **C05 (attestation endpoint).** A request whose domain type is not beacon-attester gets no
    signature from `SignBeaconAttestation`, and the store is left exactly as it was. -/
theorem C05_attest_only_attester (s : Inst) (c : String) (a : Addr) (d : AttData) (f : Faults) (sf : Bool)
    (h : prefix4 (d.domain.getD []) ≠ domAttester) :
    (signAtt s c a d f sf).2.root = none ∧ (signAtt s c a d f sf).1.db = s.db := by
  have hon := fun pk => onAttest_other_domain (db := s.db) (pk := pk) (r := d.req) (f := f) h
  rcases signSingle_cases (signAtt_eq s c a d f sf).symm with
    ⟨h0, _, h1 | ⟨acct, _, h1⟩⟩ | ⟨acct, _, _, _, hv, _⟩
  · exact ⟨h0, by rw [h1]⟩
  · exact ⟨h0, by rw [h1]; exact (hon acct.pubkey).2⟩
  · exact absurd hv (hon acct.pubkey).1

/-- **C05 (proposal endpoint).** A request whose domain type is not beacon-proposer gets no signature
    from `SignBeaconProposal`, and the store is left exactly as it was. -/
theorem C05_propose_only_proposer (s : Inst) (c : String) (a : Addr) (d : PropData) (f : Faults) (sf : Bool)
    (h : prefix4 (d.domain.getD []) ≠ domProposer) :
    (signProp s c a d f sf).2.root = none ∧ (signProp s c a d f sf).1.db = s.db := by
  have hon := fun pk => onPropose_other_domain (db := s.db) (pk := pk)
    (r := { domain := d.domain.getD [], slot := d.slot }) (f := f) h
  rcases signSingle_cases (signProp_eq s c a d f sf).symm with
    ⟨h0, _, h1 | ⟨acct, _, h1⟩⟩ | ⟨acct, _, _, _, hv, _⟩
  · exact ⟨h0, by rw [h1]⟩
  · exact ⟨h0, by rw [h1]; exact (hon acct.pubkey).2⟩
  · exact absurd hv (hon acct.pubkey).1

/-- **C05 (all histories).** In every reachable state, every released attestation signature carries
    the attester domain type and every released proposal signature the proposer domain type. -/
theorem C05_logs (cfg : Config) (db0 : Db) (ops : List Op) :
    (∀ e ∈ (run (init cfg db0) ops).attLog, prefix4 (e.2.domain.getD []) = domAttester) ∧
    (∀ e ∈ (run (init cfg db0) ops).propLog, prefix4 (e.2.domain.getD []) = domProposer) :=
  let h := run_domInv ops (init cfg db0) ⟨by simp [init], by simp [init]⟩
  ⟨h.att, h.prop⟩

/-- non-vacuity: the generic rule does approve ordinary domains and listed exits -/
example : onSign ["10.0.0.1"] "" ([2, 0, 0, 0] ++ List.replicate 28 0) = .approved := by decide
example : onSign ["10.0.0.1"] "10.0.0.1" ([4, 0, 0, 0] ++ List.replicate 28 0) = .approved := by decide
example : onSign ["10.0.0.1"] "10.0.0.2" ([4, 0, 0, 0] ++ List.replicate 28 0) = .denied := by decide
example : onSign [] "" ([1, 0, 0, 0] ++ List.replicate 28 0) = .denied := by decide

/-- **tie by translation.** The generic-signing rule the theorems above are about is, for all administrator
    lists, source addresses and domains, the function `factx` translates from the current Go source of `OnSign`. -/
theorem C05_kernel_is_source (adminIPs : List String) (ip : String) (domain : Bytes) :
    onSign adminIPs ip domain = Gen.onSignGen false adminIPs ip domain :=
  onSign_eq_gen adminIPs ip domain

/-- **C05 (each signing rule is reachable through exactly one action — the dispatch is the source).** In the ruler's per-entry
    path as it is in the source now (services/ruler/golang/runner.go, translated on every run: factx/dispatch.go) the generic
    signing action reaches `OnSign` and nothing else, the proposal action `OnSignBeaconProposal`, the attestation action
    `OnSignBeaconAttestation`; no two arms name one action; and no other action's arm calls a signing rule.  So a request that
    enters through a generic endpoint is judged by the generic rule (which refuses the attester and proposer domain types:
    `C05_generic_single` / `_multi`), whatever its data.  A verdict the rule leaves UNKNOWN, data of another type, a failing
    metadata assembly and an action no arm names all end FAILED. -/
theorem C05_dispatch_is_source :
    Gen.dispatchTableGen.lookup opSign = some ("*rules.SignData", "OnSign") ∧
    Gen.dispatchTableGen.lookup opPropose = some ("*rules.SignBeaconProposalData", "OnSignBeaconProposal") ∧
    Gen.dispatchTableGen.lookup opAttest = some ("*rules.SignBeaconAttestationData", "OnSignBeaconAttestation") ∧
    (Gen.dispatchTableGen.map (·.1)).Nodup ∧
    (∀ e ∈ Gen.dispatchTableGen, e.1 ≠ opSign → e.1 ≠ opPropose → e.1 ≠ opAttest → e.2.2 ∉ signingRules) ∧
    (∀ (k : Nat), k < Gen.dispatchTableGen.length → ∀ v : Verdict,
      Gen.dispatchEntryGen false false (some k) true (verdictCode v) = verdictCode (if v = .unknown then .failed else v)) :=
  ⟨dispatch_signing_actions.1, dispatch_signing_actions.2.1, dispatch_signing_actions.2.2.1, dispatch_signing_actions.2.2.2.1,
   dispatch_signing_actions.2.2.2.2.2, fun k hk v => dispatchEntry_eq_model k hk v⟩

end Dirk
