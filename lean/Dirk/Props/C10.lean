/-
  C10 — Importing slashing-protection data never weakens protection.

  The command-level import (`dirk --import-slashing-protection`) is modelled from the parsed file down
  (metadata checks, `strconv.ParseInt`-exact number parsing, hex key decoding with `copy` into 48
  bytes, per-key per-field merge with the existing record, rules-level write).  For every prior store
  whose decodable records hold int64 values, every interchange file and every `--genesis-validators-root`:
  a successful import never lowers any field of any key, covers every number the file states, and
  keeps the store in range (so the statements compose over any sequence of imports); wrong or missing
  metadata and malformed keys/numbers make the import fail, which by construction of the result type
  produces no new store.  Refusal of conflicting requests afterwards follows from the rule lemmas.
-/
import Dirk.Lemmas.Run
import Dirk.Props.Kernels.Import
import Dirk.Props.FactsStore  -- lib/props.py audits `facts_*` theorems from this property's module; no name of it is used here

namespace Dirk

/-- **C10 (never lowers).**  (The range hypothesis `hr` of this theorem, `C10_protects` and `C10_composes` is not used: it
    holds of every store, `C10_range_any`.) -/
theorem C10_never_lowers (gvr : String) (db db' : Db) (f : IFile) (hr : RangeOK db)
    (h : importFile gvr db f = .ok db') :
    ∀ k p, exportKey db k = some p → ∃ p', exportKey db' k = some p' ∧ ProtGe p' p := by
  intro k p hp
  obtain ⟨ea, ep⟩ := exportKey_some hp
  obtain ⟨st', ea', hs, ht⟩ := (import_fetch_ge h k).1 _ ea
  obtain ⟨v', ep', hv⟩ := (import_fetch_ge h k).2 _ ep
  exact ⟨⟨v', st'.src, st'.tgt⟩, by unfold exportKey; rw [ea', ep'], hv, hs, ht⟩

/-- **C10 (covers the file).** -/
theorem C10_protects (gvr : String) (db db' : Db) (f : IFile) (hr : RangeOK db)
    (h : importFile gvr db f = .ok db') :
    ∀ e ∈ f.data, ∃ kb p', hexDecode0x e.pubkey = some kb ∧ exportKey db' (fit48 kb) = some p' ∧
      (∀ s ∈ e.blocks, ∃ v, parseInt64 s = some v ∧ 0 ≤ v ∧ v ≤ p'.slot) ∧
      (∀ a ∈ e.atts, ∃ vs vt, parseInt64 a.1 = some vs ∧ parseInt64 a.2 = some vt ∧
          0 ≤ vs ∧ 0 ≤ vt ∧ vs ≤ p'.src ∧ vt ≤ p'.tgt) := by
  intro e he
  obtain ⟨m, hm, hin, _⟩ := importFile_exact h
  obtain ⟨kb, p', hkb, hget, hc⟩ := (mergeEntries_spec db f.data [] m hm).2 e he
  exact ⟨kb, p', hkb, (hin _ p' hget).1, hc⟩

/-- **C10 (sequences of imports).** The range condition is preserved, so `C10_never_lowers` and
    `C10_protects` apply again to the result.  (Neither `hr` nor `h` is used: every store is in range.) -/
theorem C10_composes (gvr : String) (db db' : Db) (f : IFile) (hr : RangeOK db)
    (h : importFile gvr db f = .ok db') : RangeOK db' :=
  rangeOK_any db'

/-- **C10 (refused afterwards).** Once a record holds slot `w`, every proposal at or below `w` is
    refused; once it holds (ws, wt), every attestation with target ≤ wt or source < ws is refused.
    (`hi` is not used: every fetched record is in range, `fetchProp_inI64`.) -/
theorem C10_refuses_after_prop (db : Db) (pk : Bytes) (w : Int) (r : PropReq) (f : Faults)
    (hf : fetchProp db pk false = some w) (hi : InI64 w) (hle : (r.slot : Int) ≤ w) :
    (onPropose db pk r f).1 ≠ .approved := by
  intro happ
  obtain ⟨st, h0, ⟨_, _, hgt⟩, _⟩ := (onPropose_cases db pk r f).resolve_left (·.2 happ)
  obtain rfl : w = st := Option.some.inj (hf.symm.trans h0)
  have := hgt (by omega)
  omega

theorem C10_refuses_after_att (db : Db) (pk : Bytes) (w : AttState) (r : AttReq) (f : Faults)
    (hf : fetchAtt db pk false = some w)
    (hle : (0 ≤ w.tgt ∧ (r.tgt : Int) ≤ w.tgt) ∨ (0 ≤ w.src ∧ (r.src : Int) < w.src)) :
    (onAttest db pk r f).1 ≠ .approved := by
  intro happ
  obtain ⟨st, h0, ⟨_, _, _, _, hgt, hge⟩, _⟩ := (onAttest_cases db pk r f).resolve_left (·.2 happ)
  obtain rfl : w = st := Option.some.inj (hf.symm.trans h0)
  rcases hle with ⟨h0, h⟩ | ⟨h0, h⟩
  · have := hgt h0; omega
  · have := hge h0; omega

theorem C10_bad_metadata (gvr : String) (db : Db) (f : IFile)
    (h : f.metadata = none ∨ ∃ v g, f.metadata = some (v, g) ∧ (v ≠ "5" ∨ g ≠ gvr)) :
    ∀ db', importFile gvr db f ≠ .ok db' :=
  not_ok_of_error (import_bad_metadata gvr db f h)

theorem C10_parse_error_no_change (gvr : String) (db : Db) (f : IFile)
    (h : ∃ e ∈ f.data, hexDecode0x e.pubkey = none ∨ (∃ s ∈ e.blocks, ∀ v, parseInt64 s = some v → v < 0) ∨
         (∃ a ∈ e.atts, (∀ v, parseInt64 a.1 = some v → v < 0) ∨ (∀ v, parseInt64 a.2 = some v → v < 0))) :
    ∀ db', importFile gvr db f ≠ .ok db' :=
  not_ok_of_error (import_parse_error gvr db f h)

/-- The shipped defect (repaired by a `fix:` commit): the file entry was compared with the existing
    record jointly in all three fields and dropped whole unless not older in each — an entry with a
    newer slot and no attestations (read as −1, −1) against a store holding slot 10 and 5→6 was
    dropped although the command reported success. -/
theorem C10_legacy_counterexample :
    legacyTake (some { slot := 10, src := 5, tgt := 6 }) { slot := 20, src := -1, tgt := -1 } = false := by
  decide

/-- the range hypothesis of the theorems above holds for EVERY store: whatever decodes (current or legacy format) holds
    int64 values -/
theorem C10_range_any (db : Db) : RangeOK db := rangeOK_any db

/-- **C10 inside an instance's lifetime.** An import command run between two runs of the instance (`Op.importCmd`: any
    file, any flag; the store becomes the command's result when it succeeds and is untouched when it refuses) keeps both
    slashing-protection invariants — everything released so far stays covered by the store — with NO hypothesis on the
    file. This is what lets `C01`, `C02` and `C14` range over histories that contain import commands. -/
theorem C10_import_command_keeps_invariants {s : Inst} (ha : AttInv s) (hp : PropInv s) (gvr : String) (f : IFile) :
    AttInv (step s (.importCmd gvr f)).1 ∧ PropInv (step s (.importCmd gvr f)).1 :=
  ⟨step_attInv s _ ha rfl, step_propInv s _ hp rfl⟩

/-- a sequence of import commands: each file is merged into what the earlier ones left; a refused import leaves the
    store as it was (`C10_bad_metadata`, `C10_parse_error_no_change`: a refusal yields no new store) -/
def importSeq (gvr : String) (db : Db) : List IFile → Db
  | [] => db
  | f :: fs =>
    match importFile gvr db f with
    | .ok db' => importSeq gvr db' fs
    | .error => importSeq gvr db fs

theorem importSeq_append (gvr : String) (db : Db) (pre post : List IFile) :
    importSeq gvr db (pre ++ post) = importSeq gvr (importSeq gvr db pre) post := by
  induction pre generalizing db with
  | nil => rfl
  | cons f fs ih =>
    simp only [List.cons_append, importSeq]
    split <;> exact ih _

/-- **C10 (any sequence of imports never lowers).** For every prior store, every `--genesis-validators-root` and every
    LIST of interchange files run one after the other (accepted or refused, in any mix), no field of any key ends lower
    than it started. No hypothesis on the store: the range condition is `C10_range_any`. -/
theorem C10_sequence_never_lowers (gvr : String) (db : Db) (fs : List IFile) :
    ∀ k p, exportKey db k = some p → ∃ p', exportKey (importSeq gvr db fs) k = some p' ∧ ProtGe p' p := by
  induction fs generalizing db with
  | nil => intro k p h; exact ⟨p, h, ProtGe.refl p⟩
  | cons f fs ih =>
    intro k p h
    simp only [importSeq]
    split
    · rename_i db' hok
      obtain ⟨p1, h1, g1⟩ := C10_never_lowers gvr db db' f (C10_range_any db) hok k p h
      obtain ⟨p2, h2, g2⟩ := ih db' k p1 h1
      exact ⟨p2, h2, g2.trans g1⟩
    · exact ih db k p h

/-- **C10 (any sequence of imports keeps covering every accepted file).** Whatever was imported before (`pre`) and
    whatever is imported afterwards (`post`), every number stated by a file the command accepted is still covered by
    the store at the end of the whole sequence. -/
theorem C10_sequence_protects (gvr : String) (db db1 : Db) (pre post : List IFile) (f : IFile)
    (h : importFile gvr (importSeq gvr db pre) f = .ok db1) :
    ∀ e ∈ f.data, ∃ kb p', hexDecode0x e.pubkey = some kb ∧
      exportKey (importSeq gvr db (pre ++ f :: post)) (fit48 kb) = some p' ∧
      (∀ s ∈ e.blocks, ∃ v, parseInt64 s = some v ∧ 0 ≤ v ∧ v ≤ p'.slot) ∧
      (∀ a ∈ e.atts, ∃ vs vt, parseInt64 a.1 = some vs ∧ parseInt64 a.2 = some vt ∧
          0 ≤ vs ∧ 0 ≤ vt ∧ vs ≤ p'.src ∧ vt ≤ p'.tgt) := by
  intro e he
  obtain ⟨kb, p1, hk, h1, hb, ha⟩ := C10_protects gvr _ db1 f (C10_range_any _) h e he
  have hseq : importSeq gvr db (pre ++ f :: post) = importSeq gvr db1 post := by
    rw [importSeq_append]; simp only [importSeq, h]
  obtain ⟨p2, h2, g2⟩ := C10_sequence_never_lowers gvr db1 post (fit48 kb) p1 h1
  exact ⟨kb, p2, hk, by rw [hseq]; exact h2, CoversBlocks.mono hb g2, CoversAtts.mono ha g2⟩

/-- **C10 end to end (proposals).** After ANY list of imports in which file `f` was accepted at some point, a proposal
    for a key of `f` at or below any slot `f` states for it is refused by the rules running on the final store — under
    every fault plan. This is the property's first sentence for blocks, with all three quantifiers (store, file,
    sequence) in one statement. -/
theorem C10_sequence_refuses_prop (gvr : String) (db db1 : Db) (pre post : List IFile) (f : IFile)
    (h : importFile gvr (importSeq gvr db pre) f = .ok db1)
    (e : FileEntry) (he : e ∈ f.data) (s : String) (hs : s ∈ e.blocks) (v : Int) (hv : parseInt64 s = some v)
    (kb : Bytes) (hk : hexDecode0x e.pubkey = some kb) (r : PropReq) (hle : (r.slot : Int) ≤ v) (fl : Faults) :
    (onPropose (importSeq gvr db (pre ++ f :: post)) (fit48 kb) r fl).1 ≠ .approved := by
  obtain ⟨kb', p', hk', hex, hb, _⟩ := C10_sequence_protects gvr db db1 pre post f h e he
  cases hk.symm.trans hk'
  obtain ⟨v', hv', _, hle'⟩ := hb s hs
  cases hv.symm.trans hv'
  obtain ⟨_, hp⟩ := exportKey_some hex
  exact C10_refuses_after_prop _ _ p'.slot r fl hp (fetchProp_inI64 hp) (by omega)

/-- **C10 end to end (attestations).** Likewise: an attestation whose target is at or below a target `f` states, or whose
    source is below a source `f` states, is refused on the final store. -/
theorem C10_sequence_refuses_att (gvr : String) (db db1 : Db) (pre post : List IFile) (f : IFile)
    (h : importFile gvr (importSeq gvr db pre) f = .ok db1)
    (e : FileEntry) (he : e ∈ f.data) (a : String × String) (ha : a ∈ e.atts)
    (vs vt : Int) (hvs : parseInt64 a.1 = some vs) (hvt : parseInt64 a.2 = some vt)
    (kb : Bytes) (hk : hexDecode0x e.pubkey = some kb) (r : AttReq)
    (hle : (r.tgt : Int) ≤ vt ∨ (r.src : Int) < vs) (fl : Faults) :
    (onAttest (importSeq gvr db (pre ++ f :: post)) (fit48 kb) r fl).1 ≠ .approved := by
  obtain ⟨kb', p', hk', hex, _, hat⟩ := C10_sequence_protects gvr db db1 pre post f h e he
  cases hk.symm.trans hk'
  obtain ⟨vs', vt', hvs', hvt', h0s, h0t, hles, hlet⟩ := hat a ha
  cases hvs.symm.trans hvs'
  cases hvt.symm.trans hvt'
  obtain ⟨hatt, _⟩ := exportKey_some hex
  refine C10_refuses_after_att _ _ ⟨p'.src, p'.tgt⟩ r fl hatt ?_
  rcases hle with hl | hl
  · exact Or.inl ⟨by show (0:Int) ≤ p'.tgt; omega, by show (r.tgt : Int) ≤ p'.tgt; omega⟩
  · exact Or.inr ⟨by show (0:Int) ≤ p'.src; omega, by show (r.src : Int) < p'.src; omega⟩

/-- the premises are satisfiable: a file stating slot 7 and the vote 3→4 for a key is accepted on an empty store, so
    `C10_sequence_protects` / `_refuses_prop` / `_refuses_att` apply to it with any `post` -/
def exGvr : String := "0x0000000000000000000000000000000000000000000000000000000000000000"
def exKey : String := "0xa99a76ed7796f7be22d5b7e85deeb7c5677e88e511e0b337618f8c4eb61349b4bf2d153f649f7b53359fe8b94a38e44c"
def exFile : IFile := { metadata := some ("5", exGvr), data := [{ pubkey := exKey, blocks := ["7"], atts := [("3", "4")] }] }
theorem exKey_decodes : ∃ kb, hexDecode0x exKey = some kb := ⟨_, (hexDecode0x_ofList _).trans rfl⟩
example : ∃ db1, importFile exGvr (importSeq exGvr [] []) exFile = .ok db1 :=
  let ⟨kb, hk⟩ := exKey_decodes
  -- stated for any key string: a matcher unfolds eagerly, so with the literal in place the kernel, comparing the two `match`es
  -- of the rewrite, evaluates `hexDecode0x` on all 98 characters (see `hexDecode0x_ofList`)
  have hm (s : String) (h : hexDecode0x s = some kb) :
      mergeEntries [] [] [{ pubkey := s, blocks := ["7"], atts := [("3", "4")] }] = some [(fit48 kb, ⟨7, 3, 4⟩)] := by
    rw [mergeEntries, h]; rfl
  ⟨_, importFile_ok.mpr ⟨_, _, rfl, (hexDecode0x_ofList _).trans rfl, rfl, rfl, hm _ hk, rfl⟩⟩
example : ∃ kb, hexDecode0x exKey = some kb := exKey_decodes
example : parseInt64 "7" = some 7 := rfl

/-- **tie by translation.** The merge the theorems above are about is, entry by entry, the code translated on every run
    from the Go source of `storeSlashingProtection` (package main): the value a key starts from (an earlier entry of the
    file, else the existing store's record, else −1/−1/−1), the raise-only fold of each signed attestation and each signed
    block, and the rejection of numbers that do not parse or are negative. (Not translated: public-key decoding and the
    reading of the existing store, which `mergeStepGen` takes from the model.) -/
theorem C10_kernel_is_source (db : Db) (m : PMap) (l : List FileEntry) :
    mergeEntries db m l = l.foldlM (mergeStepGen db) m :=
  mergeEntries_eq_gen db m l

end Dirk
