/-
  C16 — Key-generation messages are honoured only from peers; shares go to their owner.

  Receiver-handler model (Dirk.Model.Dkg): the caller is known by the id of the configured peer whose
  name equals its authenticated name, 0 if there is none.  For every cluster state, instance, account,
  message content and caller: a caller that is not a configured peer gets `unknown sender` from each of
  the five handlers and the cluster state is unchanged; a contribution reply carries the share computed
  for the authenticated caller's own identifier and no other.  At history level (`C16_projection`): deleting
  every non-peer message from any history changes no later reply and not the final state.  The peer table
  (`C16_accepted_peers_distinct`, `C16_duplicate_peer_name_refused`): an accepted table carries every name once.
-/
import Dirk.Props.Kernels.Dkg
import Dirk.Lemmas.DkgProjection

namespace Dirk.Dkg

/-- **C16 (non-peers are refused and change nothing).** -/
theorem C16_refuse_non_peer (c : Cluster) (i caller : Nat) (acct : String) (t : Nat) (parts : List Nat)
    (valid : Bool) (vlen : Nat) (h : senderId c caller = 0) :
    onPrepare c i caller acct t parts = (c, .unknownSender) ∧
    onExecute c i caller acct = (c, .unknownSender) ∧
    onContribute c i caller acct valid vlen = (c, .unknownSender) ∧
    onCommit c i caller acct = (c, .unknownSender) ∧
    onAbort c i caller acct = (c, .unknownSender) := by
  simp [onPrepare, onExecute, onContribute, onCommit, onAbort, h]

/-- who counts as a peer: exactly the configured ids, and 0 never does -/
theorem senderId_ne_zero_iff (c : Cluster) (caller : Nat) (h0 : 0 ∉ c.peers) :
    senderId c caller ≠ 0 ↔ caller ∈ c.peers := by
  rw [senderId_ne_zero, List.contains_eq_mem, decide_eq_true_eq]
  exact ⟨fun h => h.1, fun h => ⟨h, fun e => h0 (e ▸ h)⟩⟩

/-- **C16 (the reply's share is the caller's own).** -/
theorem C16_share_owner (s : Session) (caller k : Nat) (h : replyShareFor s caller = some k) : k = caller := by
  revert h
  fun_cases replyShareFor s caller <;> intro h <;> cases h
  rfl

/-- non-vacuity: a configured peer is honoured -/
example : (onPrepare { insts := [{ id := 1 }], peers := [1, 2], timeout := 10 } 1 2 "DW/a" 2 [1, 2]).2 = .ok := by decide
example : (onPrepare { insts := [{ id := 1 }], peers := [1, 2], timeout := 10 } 1 7 "DW/a" 2 [1, 2]).2 = .unknownSender := by
  decide

/-- **tie by translation.** `senderId` (0 = not a peer) is the loop translated on every run from the Go source of
    `senderID` (handlers/receiver/helpers.go): the id of the configured peer whose name EQUALS the authenticated client
    name exactly, whatever the map iteration order, for any injective naming of the peers. -/
theorem C16_kernel_is_source (c : Cluster) (name : Nat → String) (hinj : ∀ a b, name a = name b → a = b) (caller : Nat) :
    senderId c caller = Dirk.Gen.senderIdGen (c.peers.map (fun i => (i, name i))) (name caller) :=
  Dirk.senderId_eq_gen c name hinj caller

/-- **C16 at history level (what the projection judge checks on the implementation).** From ANY history of handler calls
    and clock ticks, deleting every message whose authenticated caller is not a configured peer changes neither the final
    state of the cluster nor the reply to any remaining message; and each deleted message had been answered
    `unknown sender`. -/
theorem C16_projection (evs : List LifeJudge.Ev) (c : Cluster) :
    (runEv c (evs.filter (fromPeer c.peers))).2 = (runEv c evs).2 ∧
    (runEv c (evs.filter (fromPeer c.peers))).1 = (runEv c evs).1.filter (fun p => fromPeer c.peers p.1) ∧
    (∀ p ∈ (runEv c evs).1, fromPeer c.peers p.1 = false → p.2 = .unknownSender) :=
  ⟨(runEv_projection evs c).1, (runEv_projection evs c).2, runEv_non_peer_replies evs c⟩

/-- **C16 (an accepted peer table names every peer once).** If the table is accepted, no two ids carry the same name — so
    the authenticated name of a caller resolves to at most one participant id, and the share computed for "the caller" is
    the share of exactly one participant. -/
theorem C16_accepted_peers_distinct (eps : List String) (h : peersAccepted eps = true) :
    (eps.filterMap peerNameOf).Nodup ∧ ∀ e ∈ eps, (peerNameOf e).isSome := by
  unfold peersAccepted at h
  simp only [Bool.and_eq_true, List.all_eq_true, decide_eq_true_eq] at h
  exact ⟨h.2, h.1⟩

/-- … and a table with a name under two ids is refused, wherever in the table the two entries stand. -/
theorem C16_duplicate_peer_name_refused (pre mid post : List String) (a b n : String)
    (ha : peerNameOf a = some n) (hb : peerNameOf b = some n) :
    peersAccepted (pre ++ a :: mid ++ b :: post) = false := by
  unfold peersAccepted
  have : ¬ ((pre ++ a :: mid ++ b :: post).filterMap peerNameOf).Nodup := by
    simp only [List.filterMap_append, List.filterMap_cons, ha, hb, List.append_assoc]
    intro hnd
    have h1 := (List.nodup_append.mp hnd).2.1
    simp only [List.cons_append] at h1
    have h2 := (List.nodup_cons.mp h1).1
    exact h2 (by simp)
  rw [Bool.and_eq_false_iff]
  right
  exact decide_eq_false this

-- (no `decide` examples here: kernel reduction does not get through `String.splitOn`; the driver evaluates `peersAccepted`
--  on every table of the peer-table scenario on every run, accepted and refused ones)

end Dirk.Dkg
