/-
  Obligation on the regenerated facts about how rule verdicts are consumed.  `lake build` re-checks it against what
  /repo's source says now.

  The signer, account-manager and wallet-manager services turn a `rules.Result` into their own result with a `switch`
  whose APPROVED arm falls out of the switch into the code that acts (signs, unlocks, creates).  Go does not check such a
  switch for exhaustiveness: an enumerator that no arm names, in a switch without a `default`, falls out of the switch the
  same way APPROVED does.  The model's verdict type has exactly the enumerators the source declares (checked here), and
  every switch over them either names them all or has a default.
-/
import Dirk.Gen.Facts

namespace Dirk

/-- the enumerators the model's rule verdicts cover (Model.Rules.Verdict: unknown / approved / denied / failed) -/
def modelledRulesResults : List String := ["UNKNOWN", "APPROVED", "DENIED", "FAILED"]

theorem facts_rules_results : Gen.rulesResults = modelledRulesResults := rfl

/-- every switch over a rules.Result outside package rules names every enumerator or has a default -/
theorem facts_result_switches_total :
    Gen.resultSwitches.all (fun sw => sw.2.2 || Gen.rulesResults.all (fun r => sw.2.1.contains r)) = true := by
  decide

/-- …and there is at least one such switch per signing endpoint (the fact is not vacuous) -/
theorem facts_result_switches_present :
    ["services/signer/standard/signbeaconattestation.go:SignBeaconAttestation",
     "services/signer/standard/signbeaconattestations.go:SignBeaconAttestations",
     "services/signer/standard/signbeaconproposal.go:SignBeaconProposal",
     "services/signer/standard/signgeneric.go:SignGeneric",
     "services/signer/standard/multisign.go:Multisign"].all (fun w => Gen.resultSwitches.any (fun sw => sw.1 == w)) = true := by
  -- each name is found in the table as the same literal (`beq_self_eq_true`); no two strings are compared by evaluation
  simp only [Gen.resultSwitches, List.all_cons, List.all_nil, List.any_cons, beq_self_eq_true, Bool.or_true,
    Bool.true_or, Bool.and_true]

end Dirk
