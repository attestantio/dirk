/-
  Dirk.Props.Kernels.Scatter — `calculateExtentSize` (util/scatter.go), translated into Go `int` arithmetic (truncating
  division, results wrapped into the int64 range: Dirk/Gen/Kernels.lean), is the model's `extentSize` over the
  naturals (Dirk/Model/Scatter.lean) as long as the item count fits an int64 and there is at least one processor.
-/
import Dirk.Model.Basic
import Dirk.Model.Scatter
import Dirk.Gen.Kernels

namespace Dirk

/-- no wrap-around on a natural number that fits an int64 -/
theorem wrapI64_natCast {m : Nat} (h : m ≤ maxI64) : Gen.wrapI64 (m : Int) = m := by
  unfold Gen.wrapI64; unfold maxI64 at h; omega

theorem extentSize_eq_gen (n p : Nat) (hp : 0 < p) (hn : n ≤ maxI64) :
    Gen.extentSizeGen n p = some (extentSize n p : Int) := by
  have hle : n / p ≤ n := Nat.div_le_self n p
  have hp' : (p : Int) ≠ 0 := by omega
  simp only [Gen.extentSizeGen, extentSize, hp', if_false, ← Int.ofNat_tdiv, wrapI64_natCast (Nat.le_trans hle hn)]
  generalize n / p = e at hle ⊢
  rw [← Int.ofNat_tmod]
  -- the increment cannot overflow: a remainder is left only when the extent is smaller than `n`
  have hw : n % e > 0 → Gen.wrapI64 ((e : Int) + 1) = ((e + 1 : Nat) : Int) := fun hm =>
    wrapI64_natCast (m := e + 1)
      (Nat.le_trans (Nat.lt_of_le_of_ne hle (fun h => by rw [h, Nat.mod_self] at hm; omega)) hn)
  generalize n % e = m at hw ⊢
  -- what is left: the two cascades over `e = 0`, `m > 0`, on `Int` and on `Nat`
  grind

/-- with `procs = 0` the Go code panics (integer divide by zero); the runtime never reports 0 processors -/
theorem extentSizeGen_zero (items : Int) : Gen.extentSizeGen items 0 = none := by
  unfold Gen.extentSizeGen; simp

example : Gen.extentSizeGen 10 3 = some 4 ∧ Gen.extentSizeGen 3 8 = some 1 ∧ Gen.extentSizeGen 8 4 = some 2 ∧
    extentSize 10 3 = 4 := by decide

end Dirk
