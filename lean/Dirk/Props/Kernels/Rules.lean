/-
  Dirk.Props.Kernels.Rules — the three rule functions of rules/standard, as `factx` translates them statement by
  statement from the Go source (Dirk/Gen/Kernels.lean, regenerated on every run), are the model's `attChecks`,
  `onPropose` and `onSign` (Dirk/Model/Rules.lean) for all inputs.
-/
import Dirk.Model.Rules
import Dirk.Gen.Kernels

namespace Dirk

/-! ## `runSignBeaconAttestationChecks` ↔ `attChecks` -/

/-- repackages the translated kernel's (verdict, (source, target)) as the model's `Verdict × AttState` -/
def attWrap (o : Verdict × (Int × Int)) : Verdict × AttState := (o.1, ⟨o.2.1, o.2.2⟩)

theorem attChecks_eq_gen (r : AttReq) (st : AttState) :
    attChecks r st = attWrap (Gen.attChecksGen r.domain r.src r.tgt st.src st.tgt) := by
  obtain ⟨_, _⟩ := st
  -- the same five refusing guards on both sides, then the same record (Props/KernelsEq.lean on `grind`)
  grind [attChecks, Gen.attChecksGen, attWrap]

example : attChecks ⟨[1, 0, 0, 0, 9], 3, 4⟩ ⟨2, 3⟩ = (.approved, ⟨3, 4⟩) ∧
    attWrap (Gen.attChecksGen [1, 0, 0, 0, 9] 3 4 2 3) = (.approved, ⟨3, 4⟩) := by decide

/-! ## `OnSignBeaconProposal` ↔ `onPropose` -/

/-- What `onPropose` decides, with the two store interactions abstracted: `fetched` is the result of the
    state fetch (`none` = error), `storeOk` says whether the store call reports success.  The second component is
    the slot handed to the store, if the store was called at all. -/
def propChecks (r : PropReq) (fetched : Option Int) (storeOk : Bool) : Verdict × Option Int :=
  if prefix4 r.domain ≠ domProposer then (.denied, none)
  else if r.slot > maxI64 then (.denied, none)
  else match fetched with
  | none => (.failed, none)
  | some st =>
    if st ≥ 0 ∧ r.slot ≤ u64 st then (.denied, none)
    else (if storeOk then .approved else .failed, some (i64 r.slot))

/-- plugs a `propChecks`-shaped outcome back into the store: the database afterwards is what `storeOne` leaves
    when a write was attempted, and is untouched otherwise -/
def propApply (db : Db) (pk : Bytes) (f : Faults) (o : Verdict × Option Int) : Verdict × Db :=
  (o.1, match o.2 with
        | none => db
        | some v => (storeOne db (propKey pk) (encodeProp v) f).2)

theorem propChecks_eq_gen (r : PropReq) (fetched : Option Int) (storeOk : Bool) :
    propChecks r fetched storeOk = Gen.propChecksGen r.domain r.slot fetched storeOk := by
  cases fetched <;> grind [propChecks, Gen.propChecksGen]

theorem onPropose_eq_gen (db : Db) (pk : Bytes) (r : PropReq) (f : Faults) :
    onPropose db pk r f =
      propApply db pk f
        (Gen.propChecksGen r.domain r.slot (fetchProp db pk (f.fetchFail.contains 0)) (!f.storeFail)) := by
  rw [← propChecks_eq_gen]
  unfold onPropose propChecks propApply storeOne
  generalize fetchProp db pk (f.fetchFail.contains 0) = fetched
  grind

example : propChecks ⟨[0, 0, 0, 0], 7⟩ (some 6) true = (.approved, some 7) ∧
    Gen.propChecksGen [0, 0, 0, 0] 7 (some 6) true = (.approved, some 7) ∧
    Gen.propChecksGen [0, 0, 0, 0] 7 (some 7) true = (.denied, none) ∧
    Gen.propChecksGen [0, 0, 0, 0] 7 none true = (.failed, none) ∧
    Gen.propChecksGen [0, 0, 0, 0] 7 (some 6) false = (.failed, some 7) := by decide

/-! ## `OnSign` ↔ `onSign` -/

/-- The Go function first returns FAILED on a nil `metadata` pointer; the model's `onSign` is the function of a
    present metadata record (the ruler always passes one), i.e. the translated kernel at `metadataNil = false`. -/
theorem onSign_eq_gen (adminIPs : List String) (ip : String) (domain : Bytes) :
    onSign adminIPs ip domain = Gen.onSignGen false adminIPs ip domain := by
  grind [onSign, Gen.onSignGen]

/-- … and the nil-metadata arm, which the model does not have, is FAILED -/
theorem onSignGen_nil (adminIPs : List String) (ip : String) (domain : Bytes) :
    Gen.onSignGen true adminIPs ip domain = .failed := by
  unfold Gen.onSignGen; simp

example : onSign ["10.0.0.1"] "10.0.0.1" [4, 0, 0, 0] = .approved ∧
    Gen.onSignGen false ["10.0.0.1"] "10.0.0.1" [4, 0, 0, 0] = .approved ∧
    Gen.onSignGen false ["10.0.0.1"] "10.0.0.2" [4, 0, 0, 0] = .denied ∧
    Gen.onSignGen false ["10.0.0.1"] "" [4, 0, 0, 0] = .denied ∧
    Gen.onSignGen false [] "" [2, 0, 0, 0] = .approved := by decide

end Dirk
