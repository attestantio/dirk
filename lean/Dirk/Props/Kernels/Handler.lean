/-
  Dirk.Props.Kernels.Handler — the batch paths of the gRPC signer handlers `SignBeaconAttestations` / `Multisign` with
  their `validate…Requests` (services/api/grpc/handlers/signer), as translated from the Go source
  (Dirk/Gen/Kernels.lean), against `handlerRejects`, `firstRejected`, `firstRejectedSign`, `respond`, `hSignAtts`,
  `hMultisign` of Dirk/Model/Handler.lean: validation, early exits, result → response mapping.

  The generated definitions name response states by the NAME of the `pb.ResponseState` enumerator; `stateName` is the model's
  reading (`Res` serves both as `core.Result` and as response state), and where the module's source is available the
  enumerator VALUES are checked to be the `resCode` ones (`pbStates_agree`).  Where the Go and the model differ:
  * the Go also refuses a nil entry (FAILED) and, for attestations, absent data / source / target (DENIED); the model has no
    such values (`AttData` always carries them), so the theorems instantiate those inputs with `false`
    (`attsEntryVerdict_beyond_model` states what the Go does there);
  * a name given TOGETHER with a key: both the Go and `handlerRejects` look at the name alone (no `/` ⇒ DENIED whatever the
    key), so `attsEntryVerdict_eq_model` holds for EVERY `Addr`, not only under the wire invariant `Addr.wire`.
-/
import Dirk.Model.Handler
import Dirk.Props.Kernels.Codes

namespace Dirk

/-- the name of a `pb.ResponseState` enumerator, for the model's reading of response states as `Res` -/
def stateName : Res → String
  | .unknown => "UNKNOWN" | .succeeded => "SUCCEEDED" | .denied => "DENIED" | .failed => "FAILED"

theorem stateName_inj (a b : Res) (h : stateName a = stateName b) : a = b := by
  cases a <;> cases b <;> simp [stateName] at h ⊢

theorem pbStates_agree :
    Gen.pbResponseStateValuesGen.all (fun l => l == [(stateName .unknown, resCode .unknown), (stateName .succeeded, resCode .succeeded),
      (stateName .denied, resCode .denied), (stateName .failed, resCode .failed)]) = true := by decide

theorem attsEntryVerdict_beyond_model (ae kn sl dn sn tn : Bool) :
    Gen.attsEntryVerdictGen true ae kn sl dn sn tn = some (stateName .failed) ∧
    (Gen.attsEntryVerdictGen false ae kn sl dn sn tn =
      if (ae && kn) || (!ae && !sl) || dn || sn || tn then some (stateName .denied) else none) :=
  ⟨rfl, by
    -- the Bool expression against the cascade of the generated guards (Props/KernelsEq.lean on `grind`)
    simp only [Gen.attsEntryVerdictGen, stateName, Bool.or_eq_true, Bool.and_eq_true, Bool.not_eq_true']
    grind⟩

/-- the model's entries are the case "entry, data and both checkpoints present" -/
theorem attsEntryVerdict_eq_model (a : Addr) :
    Gen.attsEntryVerdictGen false a.name.isEmpty a.key.isNone (a.name.contains '/') false false false =
      if handlerRejects a then some (stateName .denied) else none := by
  rw [(attsEntryVerdict_beyond_model ..).2, handlerRejects]
  simp only [Bool.or_false]

theorem msignEntryVerdict_eq_model (a : Addr) (d : SignData) :
    Gen.msignEntryVerdictGen false a.name.isEmpty a.key.isNone (a.name.contains '/') d.data.isNone d.domain.isNone =
      if handlerRejects a || d.data.isNone || d.domain.isNone then some (stateName .denied) else none := by
  grind [handlerRejects, Gen.msignEntryVerdictGen, stateName]

theorem msignEntryVerdict_nil (ae kn sl dn mn : Bool) :
    Gen.msignEntryVerdictGen true ae kn sl dn mn = some (stateName .failed) := rfl

theorem firstBadGen_eq_findIdx {α : Type} (rej : α → Bool) (verdict : α → Option String) (v : String)
    (hv : ∀ x, verdict x = if rej x then some v else none) (l : List α) :
    Gen.firstBadGen (l.map verdict) = (l.findIdx? rej).map (fun i => (i, v)) := by
  induction l with
  | nil => rfl
  | cons x xs ih => cases h : rej x <;> simp [List.findIdx?_cons, hv x, h, Gen.firstBadGen, ih, Function.comp_def]

/-- the contract of `firstBad`, stated on the list of verdicts: `firstBadGen` returns the first index whose verdict is
    `some v` (with that v), every earlier verdict being `none` -/
theorem firstBadGen_spec (l : List (Option String)) :
    match Gen.firstBadGen l with
    | some (i, v) => l[i]? = some (some v) ∧ ∀ j, j < i → l[j]? = some none
    | none => ∀ j, j < l.length → l[j]? = some none := by
  fun_induction Gen.firstBadGen l with
  | case1 => intro j hj; simp at hj
  | case2 v rest => simp
  | case3 rest ih =>
    cases hr : Gen.firstBadGen rest <;> rw [hr] at ih <;> simp only [Option.map_some, Option.map_none]
    · rintro (_ | j) hj
      · rfl
      · exact ih j (Nat.lt_of_succ_lt_succ hj)
    · refine ⟨ih.1, ?_⟩
      rintro (_ | j) hj
      · rfl
      · exact ih.2 j (Nat.lt_of_succ_lt_succ hj)

/-- what the handlers return after a validation that stopped at `i` having written `v`: the responses, `v` at `i` and
    UNKNOWN elsewhere, exactly when `i` is an entry and `v` one of the two states the early-return loop looks for -/
theorem batchAfterValidate_some (n i : Nat) (v : String) :
    Gen.batchAfterValidateGen n (some (i, v)) =
      if i < n ∧ (v = "DENIED" ∨ v = "FAILED") then some ((List.range n).map (fun j => if j = i then v else "UNKNOWN"))
      else none := by
  have hany : ((List.range n).map (fun j => if j = i then v else "UNKNOWN")).any
      (fun s => s == "DENIED" || s == "FAILED") = true ↔ i < n ∧ (v = "DENIED" ∨ v = "FAILED") := by
    simp only [List.any_map, List.any_eq_true, List.mem_range, Function.comp, Bool.or_eq_true, beq_iff_eq]
    constructor
    · rintro ⟨j, hj, h⟩
      split at h
      · next hji => exact ⟨hji ▸ hj, h⟩
      · simp at h
    · exact fun ⟨hi, h⟩ => ⟨i, hi, by rwa [if_pos rfl]⟩
  simp only [Gen.batchAfterValidateGen, replicate_set_eq_range, hany]

theorem batchAfterValidate_none (n : Nat) : Gen.batchAfterValidateGen n none = none := by
  have : (List.replicate n "UNKNOWN").any (fun s => s == "DENIED" || s == "FAILED") = false :=
    List.any_eq_false.mpr (fun s hs => by simp [List.eq_of_mem_replicate hs])
  simp only [Gen.batchAfterValidateGen, this]
  rfl

/-- **Any rejected entry stops the handler** — also the Go-only FAILED of a nil entry, for which the model has no value:
    with the validation stopped at `i < n` having written DENIED or FAILED the responses are returned, `v` at `i` and UNKNOWN
    elsewhere; with no entry rejected the signer is called. -/
theorem batchAfterValidate_stops (n i : Nat) (hi : i < n) :
    Gen.batchAfterValidateGen n (some (i, stateName .denied)) =
      some ((List.range n).map (fun j => if j = i then stateName .denied else stateName .unknown)) ∧
    Gen.batchAfterValidateGen n (some (i, stateName .failed)) =
      some ((List.range n).map (fun j => if j = i then stateName .failed else stateName .unknown)) ∧
    Gen.batchAfterValidateGen n none = none :=
  ⟨by simp [batchAfterValidate_some, hi, stateName], by simp [batchAfterValidate_some, hi, stateName],
   batchAfterValidate_none n⟩

/-- **Validation, then the early return.**  For entries whose generated verdict is DENIED exactly when the model's
    predicate `rej` rejects them: with the first bad entry computed by the generated per-entry verdicts (`firstBadGen`:
    what the Go loop with `return` does), the responses the generated handler returns after the validation are the
    model's — DENIED at the first rejected entry, UNKNOWN elsewhere — and it goes on to the signer (`none`) exactly when
    `findIdx? rej` finds nothing. -/
theorem batch_validate_findIdx {α : Type} (rej : α → Bool) (verdict : α → Option String)
    (hv : ∀ x, verdict x = if rej x then some (stateName .denied) else none) (l : List α) :
    Gen.batchAfterValidateGen l.length (Gen.firstBadGen (l.map verdict)) =
      (l.findIdx? rej).map (fun i => (List.range l.length).map (fun j => if j = i then "DENIED" else "UNKNOWN")) := by
  rw [firstBadGen_eq_findIdx rej verdict _ hv]
  cases h : l.findIdx? rej with
  | none => exact batchAfterValidate_none _
  | some i =>
    have hi : i < l.length := (List.findIdx?_eq_some_iff_getElem.mp h).1
    rw [Option.map_some, Option.map_some, show stateName .denied = "DENIED" from rfl,
      batchAfterValidate_some, if_pos ⟨hi, Or.inl rfl⟩]

/-- the verdict the generated validation of `SignBeaconAttestations` gives a model entry (a non-nil entry with data and both
    checkpoints: the model's `AttData` has no absent data / checkpoint) -/
def attsVerdictOf (a : Addr) : Option String :=
  Gen.attsEntryVerdictGen false a.name.isEmpty a.key.isNone (a.name.contains '/') false false false

/-- … of `Multisign` -/
def msignVerdictOf (it : Addr × SignData) : Option String :=
  Gen.msignEntryVerdictGen false it.1.name.isEmpty it.1.key.isNone (it.1.name.contains '/') it.2.data.isNone it.2.domain.isNone

theorem batch_validate_eq_model' (as : List Addr) (i : Nat) (h : firstRejected as = some i) :
    Gen.batchAfterValidateGen as.length (some (i, "DENIED")) =
      some ((List.range as.length).map (fun j => stateName (if j = i then Res.denied else Res.unknown))) := by
  have hi : i < as.length := (List.findIdx?_eq_some_iff_getElem.mp h).1
  simp only [batchAfterValidate_some, hi, true_and, true_or, if_true, apply_ite stateName]
  rfl

/-- **Before the validation.**  A nil request or one without entries gets ONE response, DENIED; the model's empty item
    list (it has no nil request) gives the same. -/
theorem batchEarly_eq_model (reqNil : Bool) (n : Nat) :
    Gen.batchEarlyGen reqNil n = (if reqNil || n == 0 then some [stateName .denied] else none) ∧
    (∀ (s : Inst) (c : String) (f : Faults) (sf : List Nat),
      some ((hSignAtts s c [] f sf).2.map (fun p => stateName p.res)) = Gen.batchEarlyGen false 0) ∧
    (∀ (s : Inst) (c ip : String) (sf : List Nat) (lsf : Bool),
      some ((hMultisign s c ip [] sf lsf).2.map (fun p => stateName p.res)) = Gen.batchEarlyGen false 0) := by
  refine ⟨?_, fun _ _ _ _ => rfl, fun _ _ _ _ _ => rfl⟩
  unfold Gen.batchEarlyGen stateName
  cases reqNil <;> by_cases h : n = 0 <;> simp [h]

/-- **The handlers' refusals are the generated ones**, for a handler outcome `out` of the shape both batch handlers have: one DENIED
    response for no entries; else, with `fr` the first rejected entry as the generated validation finds it (`hv`),
    `rejectedAt` and the instance untouched; else the signer's result `r` mapped through `respond`.  Whenever the generated
    early exit or the generated validation + early return produce a response list, `out` is exactly it (no signature
    anywhere) with the instance unchanged. -/
theorem batchHandler_eq_gen {β : Type} (s : Inst) (its : List β) (fr : Option Nat) (verdicts : List (Option String))
    (out r : Inst × List Pos)
    (hv : Gen.batchAfterValidateGen its.length (Gen.firstBadGen verdicts) =
      fr.map (fun i => (List.range its.length).map (fun j => if j = i then "DENIED" else "UNKNOWN")))
    (hout : out = if its.isEmpty then (s, [⟨.denied, none⟩]) else
      match fr with
      | some i => (s, (List.range its.length).map (fun j => if j = i then ⟨.denied, none⟩ else ⟨.unknown, none⟩))
      | none => (r.1, r.2.map respond)) :
    match Gen.batchEarlyGen false its.length with
    | some l => out = (s, [⟨.denied, none⟩]) ∧ l = [stateName .denied]
    | none =>
      match Gen.batchAfterValidateGen its.length (Gen.firstBadGen verdicts) with
      | some l => out.1 = s ∧ out.2.map (fun p => stateName p.res) = l ∧ ∀ p ∈ out.2, p.root = none
      | none => out = (r.1, r.2.map respond) := by
  subst hout
  rw [hv]
  cases its with
  | nil => exact ⟨rfl, rfl⟩
  | cons x xs =>
    have : Gen.batchEarlyGen false (x :: xs).length = none := by simp [Gen.batchEarlyGen]
    rw [this]
    cases fr with
    | none => rfl
    | some i =>
      refine ⟨rfl, ?_, fun p hp => ?_⟩
      · exact List.map_map.trans (List.map_congr_left fun j _ => by by_cases hj : j = i <;> simp [hj, stateName])
      · obtain ⟨j, _, rfl⟩ := List.mem_map.mp hp
        split <;> rfl

theorem hSignAtts_eq_gen (s : Inst) (c : String) (items : List (Addr × AttData)) (f : Faults) (sf : List Nat) :
    let its := items.map (fun it => (it.1.wire, it.2.wire))
    match Gen.batchEarlyGen false its.length with
    | some l => hSignAtts s c items f sf = (s, [⟨.denied, none⟩]) ∧ l = [stateName .denied]
    | none =>
      match Gen.batchAfterValidateGen its.length (Gen.firstBadGen ((its.map (·.1)).map attsVerdictOf)) with
      | some l => (hSignAtts s c items f sf).1 = s ∧ (hSignAtts s c items f sf).2.map (fun p => stateName p.res) = l ∧
          ∀ p ∈ (hSignAtts s c items f sf).2, p.root = none
      | none => hSignAtts s c items f sf = ((signAtts s c its f sf).1, (signAtts s c its f sf).2.map respond) := by
  intro its
  have hv := batch_validate_findIdx handlerRejects attsVerdictOf attsEntryVerdict_eq_model (its.map (·.1))
  rw [List.length_map] at hv
  exact batchHandler_eq_gen s its _ _ _ (signAtts s c its f sf) hv rfl

theorem hMultisign_eq_gen (s : Inst) (c ip : String) (items : List (Addr × SignData)) (sf : List Nat) (lsf : Bool) :
    let its := items.map (fun it => (it.1.wire, it.2.wire))
    match Gen.batchEarlyGen false its.length with
    | some l => hMultisign s c ip items sf lsf = (s, [⟨.denied, none⟩]) ∧ l = [stateName .denied]
    | none =>
      match Gen.batchAfterValidateGen its.length (Gen.firstBadGen (its.map msignVerdictOf)) with
      | some l => (hMultisign s c ip items sf lsf).1 = s ∧
          (hMultisign s c ip items sf lsf).2.map (fun p => stateName p.res) = l ∧
          ∀ p ∈ (hMultisign s c ip items sf lsf).2, p.root = none
      | none => hMultisign s c ip items sf lsf =
          ((multisign s c ip its sf lsf).1, (multisign s c ip its sf lsf).2.map respond) := by
  intro its
  exact batchHandler_eq_gen s its _ _ _ (multisign s c ip its sf lsf)
    (batch_validate_findIdx _ msignVerdictOf (fun it => msignEntryVerdict_eq_model it.1 it.2) its) rfl

/-- **The final switch is `respond`.**  For every position the signer returns, the generated mapping applied to the
    `core.Result` value of `p.res` names `p.res`'s state and copies the signature exactly under SUCCEEDED — which is what
    `respond p` is.  A value that is no `core.Result` enumerator keeps the creation state UNKNOWN and copies nothing. -/
theorem resultToState_eq_respond (p : Pos) :
    Gen.resultToStateGen (resCode p.res) = (stateName p.res, decide (p.res = .succeeded)) ∧
    respond p = ⟨p.res, if (Gen.resultToStateGen (resCode p.res)).2 then p.root else none⟩ ∧
    (stateName (respond p).res = (Gen.resultToStateGen (resCode p.res)).1) ∧
    ((Gen.resultToStateGen (resCode p.res)).2 = true ↔ p.res = .succeeded) ∧
    (∀ n, resOfCode n = none → Gen.resultToStateGen n = (stateName .unknown, false)) := by
  have hother : ∀ n, resOfCode n = none → Gen.resultToStateGen n = (stateName .unknown, false) := by
    intro n hn
    match n, hn with
    | 0, hn | 1, hn | 2, hn | 3, hn => cases hn
    | n + 4, _ => simp [Gen.resultToStateGen, stateName]
  obtain ⟨r, root⟩ := p
  cases r <;> exact ⟨rfl, rfl, rfl, by simp [resCode, Gen.resultToStateGen], hother⟩

/-- **The shape.**  The facts the model's `hSignAtts` / `hMultisign` rest on, as read from the source of both handlers: one
    response per entry, created UNKNOWN; the validation between that and the signer; the early return on DENIED or FAILED;
    the signer called once with `accountNames[i] = request.GetAccount()`, `pubKeys[i] = request.GetPublicKey()`; the results
    mapped position by position; and both handlers give the same early exits, the same after-validation behaviour and the
    same switch. -/
theorem handler_shape_is_source :
    Gen.handlerShapeGen = [
      "responses: res.Responses = make([]*pb.SignResponse, len(req.GetRequests())); for i := range req.GetRequests() { res.Responses[i] = &pb.SignResponse{State: pb.ResponseState_UNKNOWN} }",
      "validation [SignBeaconAttestations]: validateSignBeaconAttestationsRequests(ctx, req, res) is called after the responses are created and before the signer",
      "validation [Multisign]: validateMultisignRequests(ctx, req, res) is called after the responses are created and before the signer",
      "early return: for i := range req.GetRequests() { if res.Responses[i].State == pb.ResponseState_DENIED || res.Responses[i].State == pb.ResponseState_FAILED { return res, nil } }",
      "accountNames: accountNames := make([]string, len(req.GetRequests())); for i, request := range req.GetRequests(): accountNames[i] = request.GetAccount()",
      "pubKeys: pubKeys := make([][]byte, len(req.GetRequests())); for i, request := range req.GetRequests(): pubKeys[i] = request.GetPublicKey()",
      "reqData [SignBeaconAttestations]: reqData := make([]*rules.SignBeaconAttestationData, len(req.GetRequests())); for i, request := range req.GetRequests(): reqData[i] = &rules.SignBeaconAttestationData{Domain: request.GetDomain(), Slot: request.GetData().GetSlot(), CommitteeIndex: request.GetData().GetCommitteeIndex(), BeaconBlockRoot: request.GetData().GetBeaconBlockRoot(), Source: &rules.Checkpoint{Epoch: request.GetData().GetSource().GetEpoch(), Root: request.GetData().GetSource().GetRoot()}, Target: &rules.Checkpoint{Epoch: request.GetData().GetTarget().GetEpoch(), Root: request.GetData().GetTarget().GetRoot()}}",
      "reqData [Multisign]: reqData := make([]*rules.SignData, len(req.GetRequests())); for i, request := range req.GetRequests(): reqData[i] = &rules.SignData{Domain: request.GetDomain(), Data: request.GetData()}",
      "signer call [SignBeaconAttestations]: results, signatures := h.signer.SignBeaconAttestations(ctx, handlers.GenerateCredentials(ctx), accountNames, pubKeys, reqData) (the only call of the signer, after the early-return loop)",
      "signer call [Multisign]: results, signatures := h.signer.Multisign(ctx, handlers.GenerateCredentials(ctx), accountNames, pubKeys, reqData) (the only call of the signer, after the early-return loop)",
      "result loop: for i := range results { switch results[i] { … } }: response i takes the state and the signature the arm of results[i] gives it",
      "return: return res, nil"] ∧
    Gen.batchEarlySameInBothGen = true ∧ Gen.batchAfterValidateSameInBothGen = true ∧
    Gen.resultToStateSameInBothGen = true := ⟨rfl, rfl, rfl, rfl⟩

/-- the theorems above speak about non-trivial values: a batch whose second entry names an account without `/` -/
example :
    let as : List Addr := [⟨"w/a", none⟩, ⟨"bad", none⟩, ⟨"", none⟩]
    firstRejected as = some 1 ∧
    Gen.batchAfterValidateGen as.length (Gen.firstBadGen (as.map attsVerdictOf)) = some ["UNKNOWN", "DENIED", "UNKNOWN"] := by
  have h : firstRejected [⟨"w/a", none⟩, ⟨"bad", none⟩, ⟨"", none⟩] = some 1 := by
    simp [firstRejected, List.findIdx?_cons, handlerRejects]
  refine ⟨h, ?_⟩
  rw [batch_validate_findIdx handlerRejects attsVerdictOf attsEntryVerdict_eq_model, ← firstRejected, h]
  rfl

/-- … and the Go-only corners the model has no value for: a nil entry is FAILED (still an early return), and with the
    entry verdicts of a batch `[ok, nil entry, bad name]` the validation stops at the nil entry -/
example :
    Gen.batchAfterValidateGen 3 (Gen.firstBadGen [none, some "FAILED", some "DENIED"]) = some ["UNKNOWN", "FAILED", "UNKNOWN"] := by
  decide

end Dirk
