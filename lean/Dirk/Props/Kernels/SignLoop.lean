/-
  Dirk.Props.Kernels.SignLoop — the "Carry out the signing" loop of `SignBeaconAttestations` / `Multisign`
  (services/signer/standard), as translated from the Go source (Dirk/Gen/Kernels.lean), against `signEvs` /
  `signGenerics` of Dirk/Model/Instance.lean, with the loop bound that Model/ShortRules.lean rests on.  Both model
  loops are `zipIdx`-maps of one position, `signOne` (Lemmas/Signer.lean); the tie is made for that position.

  Every opaque call of the Go (hashing, signing) is a Bool input of the generated position functions and verdicts and
  results are enumerator values (Kernels/Codes.lean); so the tie is a finite case analysis over the model's verdicts and
  those Bools, each case closed by evaluating the generated function.
-/
import Dirk.Lemmas.Signer
import Dirk.Props.Kernels.Codes

namespace Dirk

/-- the position the model builds from what the generated function returns -/
def posOfGen (g : Nat × Bool) (root : Option Bytes) : Pos := ⟨(resOfCode g.1).getD .unknown, if g.2 then root else none⟩

/-- One position (`signOne`, Lemmas/Signer.lean) is the generated position function of `SignBeaconAttestations`.
    The model folds the failure of `attestation.HashTreeRoot()` and of `generateSigningRoot` into
    `root = none` (Model/Instance.lean: `AttData.signingRoot`), so ANY split of that into the two generated
    inputs `rootErr`, `signingRootErr` will do.  The position's result is the decoding of the generated value, the root
    (and the released entry) is there exactly when the generated function says `signatures[i]` is assigned. -/
theorem signOne_eq_genAtt {γ : Type} (v : Verdict) (root : Option Bytes) (rootErr signingRootErr signErr : Bool) (x : γ)
    (h : (rootErr || signingRootErr) = root.isNone) :
    signOne v root signErr x =
      (posOfGen (Gen.signLoopPosAttGen (verdictCode v) rootErr signingRootErr signErr) root,
       if (Gen.signLoopPosAttGen (verdictCode v) rootErr signingRootErr signErr).2 then some x else none) := by
  cases root <;> cases rootErr <;> cases signingRootErr <;> first | (cases h; done) | (cases v <;> cases signErr <;> rfl)

/-- … of `Multisign`, where `signingRootErr` alone stands for `root = none` -/
theorem signOne_eq_genMulti {γ : Type} (v : Verdict) (root : Option Bytes) (signErr : Bool) (x : γ) :
    signOne v root signErr x =
      (posOfGen (Gen.signLoopPosMultiGen (verdictCode v) root.isNone signErr) root,
       if (Gen.signLoopPosMultiGen (verdictCode v) root.isNone signErr).2 then some x else none) := by
  cases v <;> cases root <;> cases signErr <;> rfl

theorem signLoopPosAtt_eq_gen' (sf : List Nat) (i : Nat) (k : Bytes) (d : AttData) (v : Verdict) :
    (signEvs sf i [(k, d, v)]).map (fun o => (resCode o.1.res, o.1.root.isSome, o.2.isSome)) =
      [((Gen.signLoopPosAttGen (verdictCode v) d.signingRoot.isNone false (sf.contains i)).1,
        (Gen.signLoopPosAttGen (verdictCode v) d.signingRoot.isNone false (sf.contains i)).2,
        (Gen.signLoopPosAttGen (verdictCode v) d.signingRoot.isNone false (sf.contains i)).2)] := by
  simp only [signEvs_eq_map, List.zipIdx_cons, List.zipIdx_nil, List.map_cons, List.map_nil]
  generalize d.signingRoot = root
  generalize sf.contains i = e
  cases v <;> cases root <;> cases e <;> rfl

theorem signLoopPosMulti_eq_gen' (adminIPs : List String) (ip : String) (sf : List Nat) (i : Nat) (k : Bytes)
    (d : SignData) :
    (signGenerics adminIPs ip sf i [(k, d)]).map (fun o => (resCode o.1.res, o.1.root.isSome, o.2.isSome)) =
      [((Gen.signLoopPosMultiGen (verdictCode (onSign adminIPs ip (d.domain.getD []))) d.signingRoot.isNone (sf.contains i)).1,
        (Gen.signLoopPosMultiGen (verdictCode (onSign adminIPs ip (d.domain.getD []))) d.signingRoot.isNone (sf.contains i)).2,
        (Gen.signLoopPosMultiGen (verdictCode (onSign adminIPs ip (d.domain.getD []))) d.signingRoot.isNone (sf.contains i)).2)] := by
  simp only [signGenerics_eq_map, List.zipIdx_cons, List.zipIdx_nil, List.map_cons, List.map_nil]
  generalize onSign adminIPs ip (d.domain.getD []) = v
  generalize d.signingRoot = root
  generalize sf.contains i = e
  cases v <;> cases root <;> cases e <;> rfl

theorem signEvs_eq_gen_map (sf : List Nat) (i : Nat) (evs : List (Bytes × AttData × Verdict)) :
    signEvs sf i evs = (evs.zipIdx i).map (fun e =>
      (posOfGen (Gen.signLoopPosAttGen (verdictCode e.1.2.2) e.1.2.1.signingRoot.isNone false (sf.contains e.2))
          e.1.2.1.signingRoot,
       if (Gen.signLoopPosAttGen (verdictCode e.1.2.2) e.1.2.1.signingRoot.isNone false (sf.contains e.2)).2
       then some (e.1.1, e.1.2.1) else none)) := by
  rw [signEvs_eq_map]
  exact List.map_congr_left (fun e _ => signOne_eq_genAtt _ _ _ false _ _ (Bool.or_false _))

theorem signGenerics_eq_gen_map (adminIPs : List String) (ip : String) (sf : List Nat) (i : Nat)
    (keyed : List (Bytes × SignData)) :
    signGenerics adminIPs ip sf i keyed = (keyed.zipIdx i).map (fun e =>
      (posOfGen (Gen.signLoopPosMultiGen (verdictCode (onSign adminIPs ip (e.1.2.domain.getD [])))
          e.1.2.signingRoot.isNone (sf.contains e.2)) e.1.2.signingRoot,
       if (Gen.signLoopPosMultiGen (verdictCode (onSign adminIPs ip (e.1.2.domain.getD [])))
          e.1.2.signingRoot.isNone (sf.contains e.2)).2 then some (e.1.1, e.1.2) else none)) := by
  rw [signGenerics_eq_map]
  exact List.map_congr_left (fun e _ => signOne_eq_genMulti _ _ _ _)

/-- The regenerated loop bound.  Both signing loops are `util.Scatter(len(rulesResults), func(offset, entries, _) { for i :=
    offset; i < offset+entries; i++ { switch rulesResults[i] … } })` with `rulesResults` the ruler's answer; `results` is
    `make([]core.Result, len(data))` filled with ResultUnknown (which is also the type's zero value), `signatures` is
    `make([][]byte, len(data))` (nil entries).  So exactly the first `len(rulesResults)` positions are visited and the others
    keep UNKNOWN / no signature: the `take k` and `padUnknown` of Model/ShortRules.lean (`finishKeyedShort`,
    `multisignShort`). -/
theorem signLoopBound_is_rules_results :
    Gen.signLoopBoundAttGen = "len(rulesResults)" ∧ Gen.signLoopBoundMultiGen = "len(rulesResults)" ∧
    Gen.signLoopIndexAttGen = "i := offset; i < offset+entries; i++" ∧
    Gen.signLoopIndexMultiGen = "i := offset; i < offset+entries; i++" ∧
    Gen.signLoopSwitchTagAttGen = "rulesResults[i]" ∧ Gen.signLoopSwitchTagMultiGen = "rulesResults[i]" ∧
    Gen.signLoopVerdictsAttGen =
      "rulesResults := s.ruler.RunRules(ctx, credentials, ruler.ActionSignBeaconAttestation, rulesData)" ∧
    Gen.signLoopVerdictsMultiGen = "rulesResults := s.ruler.RunRules(ctx, credentials, ruler.ActionSign, rulesData)" ∧
    Gen.signLoopInitAttGen = "results := make([]core.Result, len(data))" ∧
    Gen.signLoopInitMultiGen = "results := make([]core.Result, len(data))" ∧
    Gen.signLoopInitFillAttGen = ["for i := range results { results[i] = core.ResultUnknown }"] ∧
    Gen.signLoopInitFillMultiGen = ["for i := range results { results[i] = core.ResultUnknown }"] ∧
    Gen.signLoopSigInitAttGen = "signatures := make([][]byte, len(data))" ∧
    Gen.signLoopSigInitMultiGen = "signatures := make([][]byte, len(data))" ∧
    Gen.coreResultZeroIsUnknownGen = true :=
  ⟨rfl, rfl, rfl, rfl, rfl, rfl, rfl, rfl, rfl, rfl, rfl, rfl, rfl, rfl, rfl⟩

/-- read off the translated code: verdict values 0..3 = UNKNOWN, APPROVED, DENIED, FAILED; results 1 = SUCCEEDED,
    2 = DENIED, 3 = FAILED.  (A value no arm names — 4, say — falls out of the switch into the signing code, as in Go:
    the generated function shows it; that no such enumerator exists is `facts_rules_results` /
    `facts_result_switches_total` in Props/FactsResults.lean, not asserted here.) -/
example : Gen.signLoopPosAttGen 1 false false false = (1, true) ∧ Gen.signLoopPosAttGen 1 true false false = (3, false) ∧
    Gen.signLoopPosAttGen 1 false true false = (3, false) ∧ Gen.signLoopPosAttGen 1 false false true = (3, false) ∧
    Gen.signLoopPosAttGen 0 false false false = (3, false) ∧ Gen.signLoopPosAttGen 2 false false false = (2, false) ∧
    Gen.signLoopPosAttGen 3 false false false = (3, false) ∧
    Gen.signLoopPosMultiGen 1 false false = (1, true) ∧ Gen.signLoopPosMultiGen 1 false true = (3, false) ∧
    Gen.signLoopPosMultiGen 1 true false = (3, false) ∧ Gen.signLoopPosMultiGen 2 false false = (2, false) := by decide

end Dirk
