/-
  Dirk.Props.Kernels.PreCheck — the signer's pre-check (`preCheck`, `fetchAccount`, `checkAccess`, `unlockAccount` of
  services/signer/standard/helpers.go), as translated from the Go source (Dirk/Gen/Kernels.lean), against
  `fetchAccount` / `preCheck` of Dirk/Model/Instance.lean.

  The generated functions return `core.Result` enumerator VALUES (Kernels/Codes.lean); every opaque call of the Go (the
  fetcher, the checker, the type assertion, `IsUnlocked`, the unlocker) is a Bool input, and `preCheckGen` is the
  composition written in `preCheck` itself over the three callees' results.
-/
import Dirk.Model.Instance
import Dirk.Props.Kernels.Codes

namespace Dirk

/-- (hand-written wrapper, not regenerated) the generated `fetchAccount` on the model's inputs: `name == ""`, `pubKey == nil`, and whether the fetcher's
    `FetchAccount(name)` / `FetchAccountByKey(pubKey)` (the model's `fetchByName` / `fetchByKey`) finds nothing -/
def fetchAccountG (cfg : Config) (a : Addr) : Nat × Nat :=
  Gen.fetchAccountGen a.name.isEmpty a.key.isNone (fetchByName cfg a.name).isNone (a.key.bind (fetchByKey cfg)).isNone

/-- `fetchAccount`: the generated result is SUCCEEDED exactly when the model resolves the account and DENIED otherwise;
    the fetch made is the one by key exactly when a key is given (whatever the name), the one by name exactly when no key
    but a name is given, none when neither is; and the model's answer IS the answer of the fetch the Go makes. -/
theorem fetchAccount_eq_gen (cfg : Config) (a : Addr) :
    (fetchAccountG cfg a).1 = (if (fetchAccount cfg a).isSome then resCode .succeeded else resCode .denied) ∧
    ((fetchAccountG cfg a).2 = 2 ↔ a.key.isSome) ∧
    ((fetchAccountG cfg a).2 = 1 ↔ (a.key.isNone ∧ a.name.isEmpty = false)) ∧
    fetchAccount cfg a = (match (fetchAccountG cfg a).2 with
      | 0 => none
      | 1 => fetchByName cfg a.name
      | _ => a.key.bind (fetchByKey cfg)) := by
  unfold fetchAccountG Gen.fetchAccountGen
  fun_cases fetchAccount cfg a with
  | case1 hk hn => simp [hk, hn, resCode]
  | case2 hk hn => cases hf : fetchByName cfg a.name <;> simp_all [resCode]
  | case3 k hk => cases hf : fetchByKey cfg k <;> simp [hk, hf, resCode]

/-- the corners `name = "" ∧ key = some _` and `name ≠ "" ∧ key = some _`: in the Go as in the model the KEY wins — the
    name is not even looked at (for any name, and whatever a fetch by name would have answered) -/
theorem fetchAccount_key_wins (cfg : Config) (name : String) (k : Bytes) (byNameErr byKeyErr : Bool) :
    fetchAccount cfg ⟨name, some k⟩ = fetchByKey cfg k ∧
    (Gen.fetchAccountGen name.isEmpty false byNameErr byKeyErr).2 = 2 ∧
    (Gen.fetchAccountGen name.isEmpty false byNameErr byKeyErr).1 =
      (if byKeyErr then resCode .denied else resCode .succeeded) := by
  grind [fetchAccount, Gen.fetchAccountGen, resCode]

theorem checkAccess_eq_gen (checkerSaysYes : Bool) :
    Gen.checkAccessGen checkerSaysYes = if checkerSaysYes then resCode .succeeded else resCode .denied := by
  cases checkerSaysYes <;> rfl

/-- `unlockAccount` on a fetched (non-nil) wallet and account that is an `AccountLocker`: FAILED when `IsUnlocked` errs
    (`lockStateFail`), else SUCCEEDED when it is unlocked already or the unlocker opens it (`acct.unlockable`), else
    DENIED — the tail of the model's `preCheck`.  (`unlockErr = false`: the model has no fault for the unlocker's own
    error; the generated function answers FAILED there, see the example below.) -/
theorem unlockAccount_eq_gen (lockStateFail unlockable isUnlocked unlockOk : Bool)
    (h : (isUnlocked || unlockOk) = unlockable) :
    Gen.unlockAccountGen false false true lockStateFail isUnlocked false unlockOk =
      if lockStateFail then resCode .failed else if unlockable then resCode .succeeded else resCode .denied := by
  subst h
  cases lockStateFail <;> cases isUnlocked <;> cases unlockOk <;> rfl

/-- what the model's `preCheck` answers for a `core.Result` value, `acct` being the fetched account -/
def preCheckOfCode (acct : Account) (n : Nat) : Except Res Account :=
  match resOfCode n with
  | some .succeeded => .ok acct
  | some r => .error r
  | none => .error .unknown

/-- the name the Go hands to the checker is the model's `wallet ++ "/" ++ name` -/
theorem preCheckCheckedNameFn_eq (w n name action : String) :
    Gen.preCheckCheckedNameFnGen w n name action = w ++ "/" ++ n := rfl

/-- `preCheck`: the model's answer is the decoding of the composed generated functions.
    When the account does not resolve the generated composition is DENIED whatever the later stages would say (they are
    not reached); when it resolves to `acct`, with `checkerSaysYes` the checker's answer for the generated account-name
    expression on `acct`, and the unlock stage instantiated as in `unlockAccount_eq_gen`, the model's `preCheck` is
    `.ok acct` exactly when the composition is SUCCEEDED and `.error r`, `r` the decoded value, otherwise. -/
theorem preCheck_eq_gen (cfg : Config) (client : String) (a : Addr) (op : String) (lockStateFail : Bool) :
    (fetchAccount cfg a = none → ∀ checkRes unlockRes : Nat,
        Gen.preCheckGen (fetchAccountG cfg a).1 checkRes unlockRes = resCode .denied ∧
        preCheck cfg client a op lockStateFail = .error .denied) ∧
    (∀ acct, fetchAccount cfg a = some acct → ∀ isUnlocked unlockOk : Bool,
        (isUnlocked || unlockOk) = acct.unlockable →
        preCheck cfg client a op lockStateFail =
          preCheckOfCode acct (Gen.preCheckGen (fetchAccountG cfg a).1
            (Gen.checkAccessGen (check cfg.access client (Gen.preCheckCheckedNameFnGen acct.wallet acct.name a.name op) op))
            (Gen.unlockAccountGen false false true lockStateFail isUnlocked false unlockOk)) ∧
        (preCheck cfg client a op lockStateFail = .ok acct ↔
          Gen.preCheckGen (fetchAccountG cfg a).1
            (Gen.checkAccessGen (check cfg.access client (Gen.preCheckCheckedNameFnGen acct.wallet acct.name a.name op) op))
            (Gen.unlockAccountGen false false true lockStateFail isUnlocked false unlockOk) = resCode .succeeded)) := by
  have hf := (fetchAccount_eq_gen cfg a).1
  refine ⟨?_, ?_⟩
  · intro hnone c u
    rw [hnone] at hf
    simp only [Option.isSome_none] at hf
    refine ⟨?_, ?_⟩
    · rw [hf]; simp [Gen.preCheckGen, resCode]
    · simp [preCheck, hnone]
  · intro acct hsome isUnlocked unlockOk hu
    rw [hsome] at hf
    simp only [Option.isSome_some, if_true] at hf
    rw [hf, checkAccess_eq_gen, unlockAccount_eq_gen lockStateFail acct.unlockable isUnlocked unlockOk hu,
      preCheckCheckedNameFn_eq]
    fun_cases preCheck cfg client a op lockStateFail <;> simp_all [Gen.preCheckGen, resCode, preCheckOfCode, resOfCode]

/-- the regenerated shape of `preCheck`: what is handed to `checkAccess` as the account name (locals printed as their
    roles) and the order of the three calls -/
theorem preCheck_shape_is_source :
    Gen.preCheckCheckedNameGen = "fmt.Sprintf(\"%s/%s\", wallet.Name(), account.Name())" ∧
    Gen.preCheckOrderGen = ["fetchAccount", "checkAccess", "unlockAccount"] := ⟨rfl, rfl⟩

/-- read off the translated code (results 1 = SUCCEEDED, 2 = DENIED, 3 = FAILED): the branches of `unlockAccount` the
    model does not exercise (nil wallet / account: DENIED; not an `AccountLocker`: SUCCEEDED without asking anyone; the
    unlocker's own error: FAILED), `fetchAccount`'s corners, and `preCheck` returning the FIRST result that is not
    SUCCEEDED. -/
example : Gen.unlockAccountGen true false true false true false true = 2 ∧
    Gen.unlockAccountGen false true true false true false true = 2 ∧
    Gen.unlockAccountGen false false false true false true false = 1 ∧
    Gen.unlockAccountGen false false true false false true true = 3 ∧
    Gen.unlockAccountGen false false true true true false true = 3 ∧
    Gen.fetchAccountGen true true false false = (2, 0) ∧ Gen.fetchAccountGen false true false true = (1, 1) ∧
    Gen.fetchAccountGen true false true false = (1, 2) ∧ Gen.fetchAccountGen false false false true = (2, 2) ∧
    Gen.preCheckGen 2 3 3 = 2 ∧ Gen.preCheckGen 1 2 3 = 2 ∧ Gen.preCheckGen 1 1 3 = 3 ∧ Gen.preCheckGen 1 1 1 = 1 ∧
    Gen.preCheckGen 0 1 1 = 0 := by decide

/-- the hypotheses of `preCheck_eq_gen` are satisfiable on a non-trivial configuration: one account, addressed by key
    while a (different, non-existent) name is given as well — the key wins and the request passes -/
example :
    let cfg : Config := { accounts := [⟨"w", "a", [1, 2, 3], true⟩], access := [] }
    fetchAccount cfg ⟨"other/name", some [1, 2, 3]⟩ = some ⟨"w", "a", [1, 2, 3], true⟩ ∧
    (fetchAccountG cfg ⟨"other/name", some [1, 2, 3]⟩).2 = 2 := by
  refine ⟨by decide, ?_⟩
  exact ((fetchAccount_eq_gen _ _).2.1).2 rfl

end Dirk
