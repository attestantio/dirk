/-
  Dirk.Props.Kernels.Dkg — the decision kernels of the distributed key generation, as translated from the Go source
  (Dirk/Gen/Kernels.lean): the parameter checks of `OnGenerate`, the acceptance conditions of `OnContribute` and
  `OnCommit`, `getGeneration`'s expiry on read (services/process/standard), `senderID`
  (services/api/grpc/handlers/receiver) and the bound check of `Suitable` (services/peers/static), each against its
  model function in Dirk/Model/Dkg.lean resp. Dirk/Model/Crashes.lean.
-/
import Dirk.Model.Dkg
import Dirk.Lemmas.DkgLife
import Dirk.Model.Crashes
import Dirk.Gen.Kernels

namespace Dirk

theorem generateAccepts_eq_gen (n t : Nat) : Dkg.generateAccepts n t = Gen.generateAcceptsGen n t := by
  -- the model's conjunction against the cascade of the three refusing guards (Props/KernelsEq.lean on `grind`)
  grind [Dkg.generateAccepts, Gen.generateAcceptsGen]

example : Dkg.generateAccepts 4 3 = true ∧ Gen.generateAcceptsGen 4 3 = true ∧ Gen.generateAcceptsGen 4 2 = false ∧
    Gen.generateAcceptsGen 5 3 = true ∧ Gen.generateAcceptsGen 0 0 = false ∧ Gen.generateAcceptsGen 3 4 = false := by decide

theorem fixedAccepts_eq_gen (valid : Bool) (vlen threshold : Nat) (listed : Bool) :
    Dkg.fixedAccepts valid vlen threshold listed = Gen.fixedAcceptsGen valid vlen threshold listed := by
  grind [Dkg.fixedAccepts, Gen.fixedAcceptsGen]

example : Dkg.fixedAccepts true 3 3 true = true ∧ Gen.fixedAcceptsGen true 3 3 true = true ∧
    Gen.fixedAcceptsGen true 4 3 true = false ∧ Gen.fixedAcceptsGen false 3 3 true = false ∧
    Gen.fixedAcceptsGen true 3 3 false = false := by decide

/-- the translated loop returns the id of the FIRST entry (in iteration order) whose name equals the caller
    exactly, and leaves the result variable alone if there is none.  (`grind` reads the comparison either way round,
    as the source may write it.) -/
theorem senderIdLoopGen_find (caller : String) (acc : Nat) (peers : List (Nat × String)) :
    Gen.senderIdLoopGen caller acc peers = ((peers.find? (fun p => p.2 == caller)).map (·.1)).getD acc := by
  induction peers with
  | nil => rfl
  | cons p ps ih => grind [Gen.senderIdLoopGen]

theorem senderIdGen_first (pre post : List (Nat × String)) (id : Nat) (caller : String)
    (hpre : ∀ p ∈ pre, p.2 ≠ caller) :
    Gen.senderIdGen (pre ++ (id, caller) :: post) caller = id := by
  have : pre.find? (fun p => p.2 == caller) = none := List.find?_eq_none.mpr (fun p hp h => hpre p hp (eq_of_beq h))
  rw [Gen.senderIdGen, senderIdLoopGen_find, List.find?_append, this]
  simp

/-- exact (case-sensitive, un-normalised) name equality decides; 0 if no peer has the name;
    with distinct names, the id of THE peer that has it — wherever it comes in the iteration (Go ranges over a map) -/
theorem senderIdGen_spec (peers : List (Nat × String)) (caller : String) :
    ((∀ p ∈ peers, p.2 ≠ caller) → Gen.senderIdGen peers caller = 0) ∧
    (∀ id, (peers.map (·.2)).Nodup → (id, caller) ∈ peers → Gen.senderIdGen peers caller = id) := by
  refine ⟨fun h => ?_, fun id hnd hmem => ?_⟩
  · have : peers.find? (fun p => p.2 == caller) = none := List.find?_eq_none.mpr (fun p hp hc => h p hp (eq_of_beq hc))
    rw [Gen.senderIdGen, senderIdLoopGen_find, this]
    rfl
  · obtain ⟨pre, post, rfl⟩ := List.append_of_mem hmem
    rw [List.map_append, List.nodup_append] at hnd
    exact senderIdGen_first pre post id caller
      (fun p hp hc => hnd.2.2 p.2 (List.mem_map_of_mem hp) caller (by simp) hc)

/-- Go's map iteration order does not matter when the names are distinct (`static.New` refuses duplicate names) -/
theorem senderIdGen_perm (peers peers' : List (Nat × String)) (caller : String)
    (hperm : peers.Perm peers') (hnd : (peers.map (·.2)).Nodup) :
    Gen.senderIdGen peers caller = Gen.senderIdGen peers' caller := by
  have hnd' : (peers'.map (·.2)).Nodup := (hperm.map (·.2)).nodup_iff.mp hnd
  by_cases h : ∃ p ∈ peers, p.2 = caller
  · obtain ⟨⟨id, _⟩, hp, rfl⟩ := h
    rw [(senderIdGen_spec peers _).2 id hnd hp, (senderIdGen_spec peers' _).2 id hnd' (hperm.mem_iff.mp hp)]
  · have h1 : ∀ p ∈ peers, p.2 ≠ caller := fun p hp hc => h ⟨p, hp, hc⟩
    rw [(senderIdGen_spec peers caller).1 h1, (senderIdGen_spec peers' caller).1 (fun p hp => h1 p (hperm.mem_iff.mpr hp))]

/-- the model's `senderId` works on ids (the caller's name is already resolved); for a cluster whose peers carry
    pairwise different names — `name` injective — the translated resolution of `name caller` over the configured
    table is exactly the model's function of `caller` -/
theorem senderId_eq_gen (c : Dkg.Cluster) (name : Nat → String) (hinj : ∀ a b, name a = name b → a = b)
    (caller : Nat) :
    Dkg.senderId c caller = Gen.senderIdGen (c.peers.map (fun i => (i, name i))) (name caller) := by
  unfold Dkg.senderId Gen.senderIdGen
  induction c.peers with
  | nil => rfl
  | cons i is ih =>
    -- one iteration compares names where the model compares ids: the same test, `name` being injective
    have hn : name i = name caller ↔ i = caller := ⟨hinj i caller, congrArg name⟩
    grind [Gen.senderIdLoopGen]

theorem senderIdCtxGen_none (peers : List (Nat × String)) : Gen.senderIdCtxGen none peers = 0 := rfl

/-- exact matching: a name differing in case, or by a trailing dot, is not the peer -/
example : Gen.senderIdGen [(1, "signer-1"), (2, "signer-2")] "signer-2" = 2 ∧
    Gen.senderIdGen [(1, "signer-1"), (2, "signer-2")] "Signer-2" = 0 ∧
    Gen.senderIdGen [(1, "signer-1"), (2, "signer-2")] "signer-2." = 0 ∧
    Gen.senderIdCtxGen (some "signer-1") [(2, "signer-2"), (1, "signer-1")] = 1 := by
  decide

/-- the hypotheses of the order-independent statements are satisfiable: two peers, either iteration order -/
example : Gen.senderIdGen [(1, "signer-1"), (2, "signer-2")] "signer-2" =
    Gen.senderIdGen [(2, "signer-2"), (1, "signer-1")] "signer-2" :=
  senderIdGen_perm _ _ _ (List.Perm.swap _ _ _) (by simp)

theorem commitListedGen_eq (l : List (Bool × Bool)) :
    Gen.commitListedGen l = (l.all (·.1) && l.all (·.2)) := by
  induction l with
  | nil => rfl
  | cons p ps ih =>
    unfold Gen.commitListedGen
    rw [ih]
    obtain ⟨a, b⟩ := p
    cases a <;> cases b <;> simp

/-- what the translated guards say, for independently held secrets and vectors (`secrets`, `vvecs`: the key sets of
    generation.sharedSecrets / sharedVVecs; `parts`: the IDs of generation.participants) -/
theorem commitAcceptsGen_spec (secrets vvecs parts : List Nat) :
    Gen.commitAcceptsGen secrets.length vvecs.length parts.length
        (parts.map (fun p => (secrets.contains p, vvecs.contains p))) =
      (decide (secrets.length = parts.length) && decide (vvecs.length = parts.length) &&
        parts.all (fun p => secrets.contains p) && parts.all (fun p => vvecs.contains p)) := by
  simp only [Gen.commitAcceptsGen, commitListedGen_eq, List.all_map, Function.comp_def]
  grind

/-- the two checks of the model's `onCommit` (secrets and vectors are stored together: `contributed`) -/
def commitChecks (s : Dkg.Session) : Bool :=
  !(decide (s.contributed.length ≠ s.participants.length)) && s.participants.all (fun p => s.contributed.contains p)

theorem commitChecks_eq_gen (s : Dkg.Session) :
    commitChecks s = Gen.commitAcceptsGen s.contributed.length s.contributed.length s.participants.length
      (s.participants.map (fun p => (s.contributed.contains p, s.contributed.contains p))) := by
  rw [commitAcceptsGen_spec]
  unfold commitChecks
  by_cases h : s.contributed.length = s.participants.length <;> simp [h]

example : Gen.commitAcceptsGen 2 2 2 [(true, true), (true, true)] = true ∧
    Gen.commitAcceptsGen 2 2 2 [(true, true), (false, false)] = false ∧
    Gen.commitAcceptsGen 2 2 2 [(true, true), (true, false)] = false ∧
    Gen.commitAcceptsGen 2 3 2 [(true, true), (true, true)] = false ∧
    Gen.commitAcceptsGen 1 2 2 [(true, true), (true, true)] = false ∧
    commitChecks ⟨2, [1, 2], [2, 1], 0⟩ = true ∧ commitChecks ⟨2, [1, 2], [2, 3], 0⟩ = false := by decide

/-- `commitChecks` is what `onCommit` tests between finding the active session and looking at the wallet: whenever the
    translated guards refuse, `onCommit` refuses and creates nothing -/
theorem onCommit_refused_of_gen (c : Dkg.Cluster) (i caller : Nat) (acct : String) (x : Dkg.DInst) (s : Dkg.Session)
    (hx : Dkg.getInst c i = some x) (hs : (Dkg.active c x acct).1 = some s)
    (hgen : Gen.commitAcceptsGen s.contributed.length s.contributed.length s.participants.length
      (s.participants.map (fun p => (s.contributed.contains p, s.contributed.contains p))) = false) :
    (Dkg.onCommit c i caller acct).2 ≠ .ok := by
  rw [← commitChecks_eq_gen, commitChecks] at hgen
  intro hok
  obtain ⟨_, s', hs', hlen, hall, _⟩ := (Dkg.onCommit_spec c i caller acct).1.mp hok
  cases hs.symm.trans ((Dkg.sessionOf_eq hx acct).symm.trans hs')
  rw [decide_eq_false (fun h => h hlen), List.all_eq_true.mpr fun p hp => by simpa using hall p hp] at hgen
  cases hgen

theorem generationExpired_eq_gen (now started timeout : Nat) :
    Gen.generationExpiredGen now started timeout = decide (now - started > timeout) := rfl

/-- `active` through the translated function: `present` = the account has a session, and the pair it returns says
    whether the session is handed out and whether the entry is removed -/
def activeWrap (c : Dkg.Cluster) (x : Dkg.DInst) (acct : String) : Option Dkg.Session × Dkg.DInst :=
  match x.sessions.lookup acct with
  | none =>
    ((if (Gen.getGenerationGen false c.now 0 c.timeout).1 then some default else none), x)
  | some s =>
    ((if (Gen.getGenerationGen true c.now s.started c.timeout).1 then some s else none),
     (if (Gen.getGenerationGen true c.now s.started c.timeout).2 then
        { x with sessions := x.sessions.filter (·.1 != acct) } else x))

theorem active_eq_gen (c : Dkg.Cluster) (x : Dkg.DInst) (acct : String) :
    Dkg.active c x acct = activeWrap c x acct := by
  fun_cases Dkg.active c x acct <;> simp [activeWrap, Gen.getGenerationGen, *]

example : Gen.generationExpiredGen 100 30 70 = false ∧ Gen.generationExpiredGen 101 30 70 = true ∧
    Gen.generationExpiredGen 10 30 70 = false ∧ Gen.getGenerationGen true 101 30 70 = (false, true) ∧
    Gen.getGenerationGen false 101 30 70 = (false, false) ∧ Gen.getGenerationGen true 100 30 70 = (true, false) := by decide

/-- `suitableAlloc` is the function `C20_alloc_bounded` is about -/
theorem suitableAlloc_eq_gen (npeers n : Nat) : suitableAlloc npeers n = .ok (Gen.suitableAllocGen n npeers) := by
  grind [suitableAlloc, Gen.suitableAllocGen, Gen.suitableRefusesGen]

/-- `C20_alloc_bounded`, read off the translated code directly -/
theorem suitableAllocGen_bounded (npeers n k : Nat) (h : Gen.suitableAllocGen n npeers = some k) : k ≤ npeers := by
  grind [Gen.suitableAllocGen, Gen.suitableRefusesGen]

example : Gen.suitableAllocGen 3 3 = some 3 ∧ Gen.suitableAllocGen 4 3 = none ∧
    Gen.suitableAllocGen 4294967295 3 = none ∧ Gen.suitableRefusesGen 4 3 = true := by decide

end Dirk
