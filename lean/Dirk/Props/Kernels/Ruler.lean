/-
  Dirk.Props.Kernels.Ruler — services/ruler/golang/runner.go, as translated from the Go source (Dirk/Gen/Kernels.lean):
  `RunRules` — validation, duplicate-key refusal, the lock protocol — and the head of `runRules` (the choice of the
  path) against `firstDup`, `rulesKeyed` (Dirk/Model/Instance.lean) and `lockWrap` (Dirk/Model/LockTrace.lean; the
  thread program of Dirk/Model/Conc.lean).

  `Gen.runRulesValidateGen` takes, for every scan loop of the Go, the first index at which each guard's condition holds
  (`IsFirst`, Lemmas/FirstDup.lean); `scanExit_eq_run` justifies the (fixed-text) combinator `Gen.scanExitGen` against a
  step-by-step execution of such a loop (the execution obeys the recursion the combinator is defined by, `scanRun_cons`),
  and `firstDup_spec` shows the model's `firstDup` meets the contract of the duplicate guard.  `Gen.lockCallsTokGen` is
  produced from the locker calls recognised in the source (a `defer` in a forward loop ⇒ reverse order at the return).
-/
import Dirk.Lemmas.FirstDup
import Dirk.Model.LockTrace
import Dirk.Props.Kernels.Codes

namespace Dirk

/-- step-by-step execution of `for i := lo; i < lo+fuel; i++ { if C₁(i) { r[i] = v₁; return }; … }`: at index `i` the
    guards are tried in source order, the first whose condition holds returns (index, its value) -/
def scanRun (guards : List ((Nat → Bool) × Nat)) : (i fuel : Nat) → Option (Nat × Nat)
  | _, 0 => none
  | i, fuel + 1 =>
    match guards.find? (fun g => g.1 i) with
    | some g => some (i, g.2)
    | none => scanRun guards (i + 1) fuel

/-- the first index in `[lo, lo+len)` at which `c` holds -/
def firstIdxFrom (c : Nat → Bool) : (lo len : Nat) → Option Nat
  | _, 0 => none
  | lo, len + 1 => if c lo then some lo else firstIdxFrom c (lo + 1) len

theorem firstIdxFrom_eq_find (c : Nat → Bool) (lo len : Nat) :
    firstIdxFrom c lo len = (List.range' lo len).find? c := by
  fun_induction firstIdxFrom c lo len <;> simp_all [List.range'_succ]

theorem firstIdxFrom_ge (c : Nat → Bool) (len lo i : Nat) (h : firstIdxFrom c lo len = some i) : lo ≤ i := by
  rw [firstIdxFrom_eq_find, List.find?_range'_eq_some] at h
  exact (List.mem_range'_1.mp h.2.1).1

theorem firstIdxFrom_isFirst (c : Nat → Bool) (n : Nat) : IsFirst (fun i => c i = true) n (firstIdxFrom c 0 n) := by
  cases h : firstIdxFrom c 0 n <;> rw [firstIdxFrom_eq_find] at h
  · simpa [IsFirst] using List.find?_range'_eq_none.mp h
  · obtain ⟨h1, h2, h3⟩ := List.find?_range'_eq_some.mp h
    exact ⟨by simpa using (List.mem_range'_1.mp h2).2, h1, fun j hj => by simpa using h3 j (Nat.zero_le _) hj⟩

theorem scanRun_nil (lo len : Nat) : scanRun [] lo len = none := by
  induction len generalizing lo with
  | zero => rfl
  | succ len ih => exact ih _

theorem scanRun_ge {guards : List ((Nat → Bool) × Nat)} {lo len j w : Nat}
    (h : scanRun guards lo len = some (j, w)) : lo ≤ j := by
  fun_induction scanRun guards lo len with
  | case1 => cases h
  | case2 i fuel g hg => cases h; exact Nat.le_refl _
  | case3 i fuel hg ih => exact Nat.le_of_succ_le (ih h)

/-- One more guard in front of the others: the execution obeys the recursion `Gen.scanExitGen` is defined by — the exit
    of the other guards if it comes at a smaller index than the new guard's first hit, else that hit. -/
theorem scanRun_cons (g : (Nat → Bool) × Nat) (t : List ((Nat → Bool) × Nat)) (lo len : Nat) :
    scanRun (g :: t) lo len =
      match firstIdxFrom g.1 lo len with
      | none => scanRun t lo len
      | some i =>
        match scanRun t lo len with
        | some (j, w) => if j < i then some (j, w) else some (i, g.2)
        | none => some (i, g.2) := by
  fun_induction firstIdxFrom g.1 lo len with
  | case1 lo => rfl
  | case2 lo len hc =>
    -- `g` fires at `lo`, before the others in source order; they exit at `lo` or beyond
    simp only [scanRun, List.find?_cons, hc]
    cases t.find? (fun g => g.1 lo) with
    | some b => simp only [Nat.lt_irrefl, if_false]
    | none =>
      cases hr : scanRun t (lo + 1) len with
      | none => rfl
      | some jw => simp only [if_neg (Nat.not_lt.mpr (Nat.le_of_succ_le (scanRun_ge hr)))]
  | case3 lo len hc ih =>
    -- `g` is silent at `lo`: its first hit lies beyond, so an exit of the others at `lo` stands
    simp only [scanRun, List.find?_cons, hc, ih]
    cases t.find? (fun g => g.1 lo) with
    | none => rfl
    | some b =>
      cases hi : firstIdxFrom g.1 (lo + 1) len with
      | none => rfl
      | some i => exact (if_pos (firstIdxFrom_ge _ _ _ _ hi)).symm
/-- **`scanExitGen` against an execution.**  Running the loop over `[0, n)` step by step gives exactly what the
    generated combinator computes from the guards' first indices (in source order). -/
theorem scanExit_eq_run (guards : List ((Nat → Bool) × Nat)) (n : Nat) :
    scanRun guards 0 n = Gen.scanExitGen (guards.map (fun g => (firstIdxFrom g.1 0 n, g.2))) := by
  induction guards with
  | nil => exact scanRun_nil 0 n
  | cons g t ih =>
    rw [scanRun_cons, ih, List.map_cons]
    cases firstIdxFrom g.1 0 n <;> rfl

/-- the condition of the duplicate guard at index `i`, on the Go's map key: entry `i`'s key equals an earlier entry's -/
def dupKeyAt (ks : List Bytes) (i : Nat) : Prop :=
  ∃ k, ks[i]? = some k ∧ Gen.runRulesKeyGen k ∈ (ks.take i).map Gen.runRulesKeyGen

/-- the Go's map key (`var key [48]byte; copy(key[:], PubKey)`) is the model's `toBytes48` -/
theorem runRulesKeyGen_eq (k : Bytes) : Gen.runRulesKeyGen k = toBytes48 k := rfl

/-- **`firstDup` meets the contract of `firstDupKey`**: it is the first index whose 48-byte key occurred at an earlier
    index (`none`: there is none). -/
theorem firstDup_spec (ks : List Bytes) : IsFirst (dupKeyAt ks) ks.length (firstDup [] 0 ks) := by
  have := firstDup_isFirst [] ks
  simp only [List.not_mem_nil, false_or] at this
  exact this

/-- the list `RunRules` returns when it gives up at index `i`: FAILED there, UNKNOWN (the initial value) elsewhere -/
def failedAt (n i : Nat) : List Nat :=
  (List.range n).map (fun j => if j = i then verdictCode .failed else verdictCode .unknown)

/-- **The validation, completely.**  No data: `[FAILED]`.  Otherwise: the first nil entry or nil `Data` (whichever has the
    smaller index) is FAILED, whatever the action and the keys; else, for a locking action, the first empty or duplicate
    key (whichever has the smaller index) is FAILED; else the checks pass; for the other actions the keys are not
    looked at. -/
theorem runRulesValidate_spec (n : Nat) (hn : n ≠ 0) (locking : Bool) (fe fd : Option Nat) :
    (∀ fn fnd, Gen.runRulesValidateGen 0 fn fnd locking fe fd = some [verdictCode .failed]) ∧
    (∀ i j, Gen.runRulesValidateGen n (some i) (some j) locking fe fd = some (failedAt n (min i j))) ∧
    (∀ i, Gen.runRulesValidateGen n (some i) none locking fe fd = some (failedAt n i)) ∧
    (∀ j, Gen.runRulesValidateGen n none (some j) locking fe fd = some (failedAt n j)) ∧
    (∀ i j, Gen.runRulesValidateGen n none none true (some i) (some j) = some (failedAt n (min i j))) ∧
    (∀ i, Gen.runRulesValidateGen n none none true (some i) none = some (failedAt n i)) ∧
    (∀ j, Gen.runRulesValidateGen n none none true none (some j) = some (failedAt n j)) ∧
    Gen.runRulesValidateGen n none none true none none = none ∧
    Gen.runRulesValidateGen n none none false fe fd = none := by
  -- every case evaluates the one or two `scanExitGen` calls; two hits combine to the smaller index
  have hmin : ∀ i j : Nat, (if j < i then some (j, 3) else some (i, 3)) = some (min i j, 3) := by
    intro i j; rw [Nat.min_def]; split <;> split <;> first | rfl | (congr 2; omega)
  simp [Gen.runRulesValidateGen, Gen.scanExitGen, hn, failedAt, replicate_set_eq_range, verdictCode, hmin]

/-- for the actions that do not lock, only the nil checks are made -/
theorem runRulesValidate_nonlocking (n : Nat) (hn : n ≠ 0) (fe fd : Option Nat) :
    Gen.runRulesValidateGen n none none false fe fd = none :=
  (runRulesValidate_spec n hn false fe fd).2.2.2.2.2.2.2.2

/-- **The duplicate refusal.**  For a request of a locking action whose entries are all there (no nil entry, no nil
    `Data`) and whose keys `ks` are all non-empty, and for ANY values of the `firstEmptyKey` / `firstDupKey` inputs that
    meet their contract (`IsFirst` of the Go's conditions): the empty-key input is `none`, the duplicate input IS the
    model's `firstDup [] 0 ks`, the generated validation passes exactly when the model finds no duplicate, and otherwise
    answers a list of `ks.length` results that is FAILED at the model's duplicate index and UNKNOWN elsewhere. -/
theorem runRulesValidate_dup_eq_model (ks : List Bytes) (hne : ks ≠ []) (hk : ∀ k ∈ ks, k ≠ [])
    (fe fd : Option Nat)
    (hfe : IsFirst (fun i => ∃ k, ks[i]? = some k ∧ k.length = 0) ks.length fe)
    (hfd : IsFirst (dupKeyAt ks) ks.length fd) :
    fe = none ∧ fd = firstDup [] 0 ks ∧
    (Gen.runRulesValidateGen ks.length none none true fe fd = none ↔ firstDup [] 0 ks = none) ∧
    (∀ i, firstDup [] 0 ks = some i → i < ks.length ∧
      Gen.runRulesValidateGen ks.length none none true fe fd =
        some ((List.range ks.length).map
          (fun j => if j = i then verdictCode .failed else verdictCode .unknown))) := by
  have hfe' : fe = none := IsFirst.unique hfe fun i _ ⟨k, hk1, hk2⟩ =>
    hk k (List.mem_of_getElem? hk1) (List.eq_nil_of_length_eq_zero hk2)
  have hfd' : fd = firstDup [] 0 ks := IsFirst.unique hfd (firstDup_spec ks)
  have hlen : ks.length ≠ 0 := fun h => hne (List.eq_nil_of_length_eq_zero h)
  subst hfe' hfd'
  -- a duplicate alone is FAILED at its index; with no empty key and no duplicate the request reaches the locks
  obtain ⟨-, -, -, -, -, -, hdup, hpass, -⟩ := runRulesValidate_spec ks.length hlen true none none
  refine ⟨rfl, rfl, ?_, fun i hi => ⟨(hi ▸ firstDup_spec ks).1, hi ▸ hdup i⟩⟩
  cases firstDup [] 0 ks <;> simp [hdup, hpass]

/-- the hypotheses of `runRulesValidate_dup_eq_model` are satisfiable, with and without a duplicate (keys that differ
    only beyond byte 48 ARE duplicates; keys shorter than 48 bytes are zero padded) -/
example : firstDup [] 0 [[1], [2], [1, 0]] = some 2 ∧ firstDup [] 0 [[1], [2], [3]] = none ∧
    Gen.runRulesValidateGen 3 none none true none (firstDup [] 0 [[1], [2], [1, 0]]) = some [0, 0, 3] ∧
    Gen.runRulesValidateGen 3 none none true none (firstDup [] 0 [[1], [2], [3]]) = none := by decide

/-- the signer's reading of that answer (`signAtts` / `multisign`: "duplicate → every position FAILED"): its signing loop
    (Kernels/SignLoop.lean) turns the FAILED position into FAILED and every UNKNOWN position into FAILED as well, signing nothing -/
theorem runRulesDup_signer_reads_all_failed (n i : Nat) (a b c : Bool) :
    ((List.range n).map (fun j => if j = i then verdictCode .failed else verdictCode .unknown)).map
        (fun v => Gen.signLoopPosAttGen v a b c) = List.replicate n (resCode .failed, false) ∧
    ((List.range n).map (fun j => if j = i then verdictCode .failed else verdictCode .unknown)).map
        (fun v => Gen.signLoopPosMultiGen v b c) = List.replicate n (resCode .failed, false) := by
  refine ⟨?_, ?_⟩ <;>
  · apply List.ext_getElem
    · simp
    · intro j h1 h2
      simp only [List.getElem_map, List.getElem_range, List.getElem_replicate]
      by_cases h : j = i <;> simp [h, verdictCode, resCode, Gen.signLoopPosAttGen, Gen.signLoopPosMultiGen]

/-- the other refusals, read off the translated code (0 = UNKNOWN, 3 = FAILED): no data; a nil entry / nil `Data` (whatever
    the action, and before any key is looked at); for a locking action an empty key or a duplicate, whichever comes first —
    at the same index the empty key; for the other actions the keys are not looked at -/
example : Gen.runRulesValidateGen 0 none none true none none = some [3] ∧
    Gen.runRulesValidateGen 3 (some 1) none false none none = some [0, 3, 0] ∧
    Gen.runRulesValidateGen 3 (some 2) (some 1) true (some 0) none = some [0, 3, 0] ∧
    Gen.runRulesValidateGen 4 none none true (some 3) (some 2) = some [0, 0, 3, 0] ∧
    Gen.runRulesValidateGen 4 none none true (some 1) (some 2) = some [0, 3, 0, 0] ∧
    Gen.runRulesValidateGen 4 none none true (some 2) (some 2) = some [0, 0, 3, 0] ∧
    Gen.runRulesValidateGen 4 none none false (some 1) (some 2) = none ∧
    Gen.runRulesValidateGen 4 none none true none none = none := by decide

/-- the locking actions are the model's three signing operations -/
theorem runRulesIsLocking_eq (action : String) :
    Gen.runRulesIsLockingGen action = [opSign, opPropose, opAttest].contains action := by
  simp only [Gen.runRulesIsLockingGen, opSign, opPropose, opAttest, List.contains_cons, List.contains_nil,
    Bool.or_false, Bool.or_assoc]

/-- the string token of a model token (the generated `lockTokGen` / `unlockTokGen` for the keyed ones) -/
def ltokStr : LTok → String
  | .pre => "pre" | .lock k => Gen.lockTokGen k | .post => "post" | .unlock k => Gen.unlockTokGen k
  | .fetch => "fetch" | .store => "store" | .stored => "stored" | .sign => "sign"

/-- **The model's lock protocol is the one recognised in the source.**  With the model's tokens for the four locker
    calls, the call sequence generated from `RunRules` for the public keys `keys` (request order) around the rules' own
    calls `inner` IS `lockWrap (keys.map toBytes48) inner`: PreLock, the locks in request order, PostLock, the rules, the
    unlocks in reverse order — token by token, for all keys and all `inner`.  (An unlock loop in forward order, a PostLock
    before the locks, a missing call or a key of another width gives a different generated list, for which this equation
    is false.)  Second part: the same through the string tokens. -/
theorem lockCalls_eq_lockWrap (keys : List Bytes) (inner : List LTok) :
    Gen.lockCallsTokGen LTok.pre LTok.post LTok.lock LTok.unlock keys inner = lockWrap (keys.map toBytes48) inner ∧
    Gen.lockCallsGen keys (inner.map ltokStr) = (lockWrap (keys.map toBytes48) inner).map ltokStr := by
  refine ⟨?_, ?_⟩
  · simp only [Gen.lockCallsTokGen, lockWrap, List.map_map, List.map_reverse]
    rfl
  · simp only [Gen.lockCallsGen, Gen.lockCallsTokGen, lockWrap, List.map_append, List.map_map, List.map_reverse,
      List.map_cons, List.map_nil, ltokStr]
    rfl

/-- the instance `traceAtts` / `traceMsign` use (Model/LockTrace.lean): the keys are the resolved accounts' public keys -/
theorem lockWrap_keyed_eq_gen {α : Type} (keyed : List (Bytes × α)) (inner : List LTok) :
    lockWrap (keyed.map (fun e => toBytes48 e.1)) inner =
      Gen.lockCallsTokGen LTok.pre LTok.post LTok.lock LTok.unlock (keyed.map (·.1)) inner := by
  rw [(lockCalls_eq_lockWrap _ _).1, List.map_map]
  rfl

/-- the tokens distinguish what they must: order of the keys, lock from unlock, the four calls -/
example : Gen.lockCallsGen [[1], [2]] ["fetch"] =
    ["pre", Gen.lockTokGen (toBytes48 [1]), Gen.lockTokGen (toBytes48 [2]), "post", "fetch",
     Gen.unlockTokGen (toBytes48 [2]), Gen.unlockTokGen (toBytes48 [1])] := rfl

/-- **Per-entry vs batch path.**  For attestations the batch path is taken exactly for more than one entry, for every
    other action never; and that is `rulesKeyed`'s split: a single resolved entry goes to the single rule (`onAttest`),
    two or more to `onAttestBatch`.  (`keyed = []` does not reach `runRules`: `RunRules` answers `[FAILED]` for no data,
    `runRulesValidateGen 0 … = some [3]`; there the model's `rulesKeyed []` reads "batch" and the Go would read "per-entry",
    neither of which is ever run.) -/
theorem runRulesPath_eq_model :
    (∀ n, Gen.runRulesPathGen n true = 1 ↔ n > 1) ∧ (∀ n, Gen.runRulesPathGen n true = 0 ↔ n ≤ 1) ∧
    (∀ n, Gen.runRulesPathGen n false = 0) ∧
    (∀ (db : Db) (keyed : List (Bytes × AttData)) (f : Faults), keyed ≠ [] →
      (Gen.runRulesPathGen keyed.length true = 0 → ∃ k d, keyed = [(k, d)] ∧
          rulesKeyed db keyed f = (some [(k, d, (onAttest db k d.req f).1)], (onAttest db k d.req f).2)) ∧
      (Gen.runRulesPathGen keyed.length true = 1 → rulesKeyed db keyed f = onAttestBatch AttData.req db keyed f)) := by
  have h1 : ∀ n, Gen.runRulesPathGen n true = 1 ↔ n > 1 := fun n => by grind [Gen.runRulesPathGen]
  have h0 : ∀ n, Gen.runRulesPathGen n true = 0 ↔ n ≤ 1 := fun n => by grind [Gen.runRulesPathGen]
  refine ⟨h1, h0, fun n => by simp [Gen.runRulesPathGen], fun db keyed f hne => ?_⟩
  match keyed, hne with
  | [(k, d)], _ => exact ⟨fun _ => ⟨k, d, rfl, rfl⟩, fun h => absurd ((h1 1).mp h) (Nat.lt_irrefl 1)⟩
  | _ :: _ :: _, _ => exact ⟨fun h => absurd ((h0 _).mp h) (by simp), fun _ => rfl⟩

/-- the action compared with in `runRules` is the model's attestation operation -/
theorem runRulesPath_action : Gen.runRulesAttestationActionGen = opAttest := rfl

/-- the regenerated string facts: which actions lock, how the map key and the lock key are built (48 bytes, `copy` into a
    fresh array), and the locker calls in source order with their loop structure -/
theorem runRules_shape_is_source :
    Gen.runRulesLockingActionsGen = [opSign, opPropose, opAttest] ∧
    Gen.runRulesKeyWidthGen = 48 ∧ Gen.runRulesLockKeyWidthGen = 48 ∧
    Gen.runRulesDupKeyExprGen = "var key [48]byte; copy(key[:], rulesData[i].PubKey)" ∧
    Gen.runRulesLockProtocolGen =
      ["PreLock", "for-each-in-order: Lock(key48(PubKey)); defer Unlock(key48(PubKey))", "PostLock", "return runRules"] :=
  ⟨rfl, rfl, rfl, rfl, rfl⟩

end Dirk
