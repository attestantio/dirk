/-
  Dirk.Props.Kernels.Codes — the generated kernels of the signer, the ruler and the handlers speak in enumerator
  VALUES (`rules.Result` in, `core.Result` out), computed by the translator from the two iota blocks.  `verdictCode` /
  `resCode` are the model's reading of those values; they are proved to be the regenerated ones, and the enumerator
  names are the ones the facts file carries (cf. `facts_rules_results` in Props/FactsResults.lean).
-/
import Dirk.Model.Basic
import Dirk.Gen.Facts
import Dirk.Gen.Kernels

namespace Dirk

/-- `rules.Result` enumerator value of a model verdict -/
def verdictCode : Verdict → Nat
  | .unknown => 0 | .approved => 1 | .denied => 2 | .failed => 3

/-- `core.Result` enumerator value of a model result -/
def resCode : Res → Nat
  | .unknown => 0 | .succeeded => 1 | .denied => 2 | .failed => 3

/-- decoding of a `core.Result` value (`none`: not an enumerator) -/
def resOfCode : Nat → Option Res
  | 0 => some .unknown | 1 => some .succeeded | 2 => some .denied | 3 => some .failed | _ => none

theorem resOfCode_resCode (r : Res) : resOfCode (resCode r) = some r := by cases r <;> rfl

/-- the encoding of verdicts is the regenerated iota block of `rules.Result` (rules/service.go) … -/
theorem verdictCode_agrees :
    Gen.rulesResultValuesGen = [("UNKNOWN", verdictCode .unknown), ("APPROVED", verdictCode .approved),
      ("DENIED", verdictCode .denied), ("FAILED", verdictCode .failed)] := rfl

/-- … whose names are exactly the enumerators the facts file lists (what `facts_rules_results` is about) -/
theorem rulesResultValues_names : Gen.rulesResultValuesGen.map (·.1) = Gen.rulesResults := rfl

/-- the decoding of results is the regenerated iota block of `core.Result` (core/result.go) -/
theorem resCode_agrees :
    Gen.coreResultValuesGen = [("ResultUnknown", resCode .unknown), ("ResultSucceeded", resCode .succeeded),
      ("ResultDenied", resCode .denied), ("ResultFailed", resCode .failed)] := rfl

/-- a slice created with one value and written at one index, position by position (the result lists of `RunRules` and
    of the handlers' validation) -/
theorem replicate_set_eq_range {α : Type} (n i : Nat) (a b : α) :
    (List.replicate n a).set i b = (List.range n).map (fun j => if j = i then b else a) := by
  apply List.ext_getElem
  · simp
  · intro j h1 h2
    simp only [List.length_set, List.length_replicate] at h1
    simp only [List.getElem_set, List.getElem_replicate, List.getElem_map, List.getElem_range]
    by_cases h : i = j
    · subst h; simp
    · have : ¬ j = i := fun e => h e.symm
      simp [h, this]

end Dirk
