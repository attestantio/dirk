/-
  Dirk.Props.Kernels.Import — the import command's raise-only merge (`storeSlashingProtection`, slashingprotection.go:
  the body of the loop over the file's entries), as translated from the Go source (Dirk/Gen/Kernels.lean), against
  `foldAtts`, `foldBlocks` and `mergeEntries` of Dirk/Model/Import.lean.

  The translated code works on plain integers: a record is the triple (slot, source, target), and the numbers read
  from the file come in already parsed (`parseInt64 s` = the model of `strconv.ParseInt(s, 10, 64)`; it is never
  unfolded here).  The model's three recursive functions stop at the first refusal; each is shown to make one translated
  step and go on (`…_cons_eq_gen`), which makes it the monadic left fold of that step (`foldlM_of_cons`).
-/
import Dirk.Model.Import
import Dirk.Gen.Kernels

namespace Dirk

theorem foldlM_of_cons {α β : Type} (f : α → List β → Option α) (step : α → β → Option α)
    (h0 : ∀ a, f a [] = some a) (hc : ∀ a b l, f a (b :: l) = (step a b).bind (fun a' => f a' l))
    (a : α) (l : List β) : f a l = l.foldlM step a := by
  induction l generalizing a with
  | nil => exact h0 a
  | cons b l ih => rw [hc, List.foldlM_cons]; exact congrArg _ (funext ih)

/-- a record as the triple (slot, source, target) the translated code uses -/
def Protection.triple (p : Protection) : Int × Int × Int := (p.slot, p.src, p.tgt)

def Protection.ofTriple (t : Int × Int × Int) : Protection := ⟨t.1, t.2.1, t.2.2⟩

theorem Protection.ofTriple_triple (p : Protection) : Protection.ofTriple p.triple = p := rfl

/-- the two attestation fields of `p` replaced by the pair the translated step returns -/
def Protection.withAtt (p : Protection) (q : Int × Int) : Protection := { p with src := q.1, tgt := q.2 }

def Protection.withSlot (p : Protection) (v : Int) : Protection := { p with slot := v }

def importAttStepP (p : Protection) (st : String × String) : Option Protection :=
  (Gen.importAttStepGen p.src p.tgt (parseInt64 st.1) (parseInt64 st.2)).map p.withAtt

def importBlockStepP (p : Protection) (s : String) : Option Protection :=
  (Gen.importBlockStepGen p.slot (parseInt64 s)).map p.withSlot

/-- the model's `foldAtts`, one element at a time, is the translated step followed by the fold of the rest.  (The Go
    raises the source before it looks at the target, the model checks both numbers first: the results agree because a
    rejected number discards the record whole.) -/
theorem foldAtts_cons_eq_gen (p : Protection) (st : String × String) (rest : List (String × String)) :
    foldAtts p (st :: rest) = (importAttStepP p st).bind (fun p' => foldAtts p' rest) := by
  rw [foldAtts]
  unfold importAttStepP Gen.importAttStepGen Protection.withAtt
  -- per outcome of the two parses: the same sign guards and the same two raises
  cases parseInt64 st.1 <;> cases parseInt64 st.2 <;> grind

theorem foldAtts_eq_gen (p : Protection) (l : List (String × String)) :
    foldAtts p l = l.foldlM importAttStepP p :=
  foldlM_of_cons foldAtts importAttStepP (fun p => by rw [foldAtts]) foldAtts_cons_eq_gen p l

theorem importAttStep_eq_gen (p : Protection) (s t : String) :
    foldAtts p [(s, t)] =
      (Gen.importAttStepGen p.src p.tgt (parseInt64 s) (parseInt64 t)).map
        (fun q => { p with src := q.1, tgt := q.2 }) := by
  simp only [foldAtts_eq_gen, List.foldlM_cons, List.foldlM_nil, bind_pure]
  rfl

theorem foldBlocks_cons_eq_gen (p : Protection) (s : String) (rest : List String) :
    foldBlocks p (s :: rest) = (importBlockStepP p s).bind (fun p' => foldBlocks p' rest) := by
  rw [foldBlocks]
  unfold importBlockStepP Gen.importBlockStepGen Protection.withSlot
  cases parseInt64 s <;> grind

theorem foldBlocks_eq_gen (p : Protection) (l : List String) :
    foldBlocks p l = l.foldlM importBlockStepP p :=
  foldlM_of_cons foldBlocks importBlockStepP (fun p => by rw [foldBlocks]) foldBlocks_cons_eq_gen p l

theorem importBlockStep_eq_gen (p : Protection) (s : String) :
    foldBlocks p [s] = (Gen.importBlockStepGen p.slot (parseInt64 s)).map (fun v => { p with slot := v }) := by
  simp only [foldBlocks_eq_gen, List.foldlM_cons, List.foldlM_nil, bind_pure]
  rfl

/-- the record `mergeEntries` starts from for key `k`: an earlier entry of the file, else the existing store, else −1/−1/−1
    (verbatim the `start` of `mergeEntries`) -/
def importStart (fromFile fromStore : Option Protection) : Protection :=
  match fromFile with
  | some p => p
  | none => match fromStore with
    | some p => p
    | none => {}

/-- the start record is what the translated `if !exists { … }` computes from the two optional records -/
theorem importStart_eq_gen (fromFile fromStore : Option Protection) :
    importStart fromFile fromStore =
      Protection.ofTriple (Gen.importStartGen (fromFile.map Protection.triple) (fromStore.map Protection.triple)) := by
  cases fromFile <;> cases fromStore <;> rfl

theorem importStart_eq_gen' (db : Db) (m : PMap) (k : Bytes) :
    (match m.get k with
      | some p => p
      | none => match existingOf db k with
        | some p => p
        | none => ({} : Protection)) =
      Protection.ofTriple
        (Gen.importStartGen ((m.get k).map Protection.triple) ((existingOf db k).map Protection.triple)) :=
  importStart_eq_gen (m.get k) (existingOf db k)

/-- (hand-written wrapper, not regenerated) one entry of the file merged into the map being built, written with the
    translated functions only (the decoding of the public key, `hexDecode0x` / `fit48`, is not part of the translated
    kernels) -/
def mergeStepGen (db : Db) (m : PMap) (e : FileEntry) : Option PMap :=
  match hexDecode0x e.pubkey with
  | none => none
  | some kb =>
    ((e.atts.foldlM importAttStepP
        (Protection.ofTriple (Gen.importStartGen ((m.get (fit48 kb)).map Protection.triple)
          ((existingOf db (fit48 kb)).map Protection.triple)))).bind
      (fun p1 => e.blocks.foldlM importBlockStepP p1)).map (fun p2 => m.set (fit48 kb) p2)

theorem mergeEntries_step_eq_gen (db : Db) (m : PMap) (e : FileEntry) (rest : List FileEntry) :
    mergeEntries db m (e :: rest) = (mergeStepGen db m e).bind (fun m' => mergeEntries db m' rest) := by
  rw [mergeEntries]
  unfold mergeStepGen
  cases hexDecode0x e.pubkey with
  | none => rfl
  | some kb =>
    simp only [← importStart_eq_gen, ← foldAtts_eq_gen]
    change (match foldAtts (importStart _ _) e.atts with
      | none => none
      | some p1 => _) = _
    cases foldAtts (importStart _ _) e.atts with
    | none => rfl
    | some p1 =>
      simp only [Option.bind_some, ← foldBlocks_eq_gen]
      cases foldBlocks p1 e.blocks <;> rfl

theorem mergeEntries_eq_gen (db : Db) (m : PMap) (l : List FileEntry) :
    mergeEntries db m l = l.foldlM (mergeStepGen db) m :=
  foldlM_of_cons (mergeEntries db) (mergeStepGen db) (fun m => by rw [mergeEntries]) (mergeEntries_step_eq_gen db) m l

/-- raise-only, rejection of negative and unparsable numbers, source handled before target: read off the translated code -/
example : Gen.importAttStepGen 5 9 (some 7) (some 8) = some (7, 9) ∧
    Gen.importAttStepGen 5 9 (some 3) (some 12) = some (5, 12) ∧
    Gen.importAttStepGen 5 9 (some 5) (some 9) = some (5, 9) ∧
    Gen.importAttStepGen (-1) (-1) (some 0) (some 0) = some (0, 0) ∧
    Gen.importAttStepGen 5 9 (some (-1)) (some 12) = none ∧
    Gen.importAttStepGen 5 9 (some 7) (some (-2)) = none ∧
    Gen.importAttStepGen 5 9 none (some 12) = none ∧
    Gen.importAttStepGen 5 9 (some 7) none = none ∧
    Gen.importBlockStepGen 10 (some 20) = some 20 ∧ Gen.importBlockStepGen 10 (some 4) = some 10 ∧
    Gen.importBlockStepGen (-1) (some 0) = some 0 ∧ Gen.importBlockStepGen 10 (some (-1)) = none ∧
    Gen.importBlockStepGen 10 none = none := by decide

/-- the start record: an earlier entry of the file wins over the store; with neither, −1/−1/−1 -/
example : Gen.importStartGen (some (1, 2, 3)) (some (4, 5, 6)) = (1, 2, 3) ∧
    Gen.importStartGen none (some (4, 5, 6)) = (4, 5, 6) ∧
    Gen.importStartGen none none = (-1, -1, -1) ∧
    importStart none none = {} ∧ importStart none (some ⟨10, 2, 3⟩) = ⟨10, 2, 3⟩ := by decide

end Dirk
