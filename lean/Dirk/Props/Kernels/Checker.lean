/-
  Dirk.Props.Kernels.Checker — `regexify` and `Check` of services/checker/static, as translated from the Go source
  (Dirk/Gen/Kernels.lean), are the model's `regexify` and `check` / `scanPaths` / `scanOps` (Dirk/Model/Checker.lean).
-/
import Dirk.Model.Checker
import Dirk.Gen.Kernels

namespace Dirk

/-! ## `regexify` (parameters.go) -/

theorem regexify_eq_gen (name : String) : regexify name = Gen.regexifyGen name := by
  unfold regexify Gen.regexifyGen
  simp only [String.isEmpty_iff]

example : Gen.regexifyGen "" = "(?i)^(?:.*)$" ∧ Gen.regexifyGen "a|b" = "(?i)^(?:a|b)$" := by
  simp [Gen.regexifyGen]

/-! ## `Check` (service.go) -/

theorem scanOps_eq_gen (op : String) (ops : List String) : scanOps op ops = Gen.checkOpsGen op ops := by
  induction ops with
  | nil => rfl
  | cons o os ih => grind [scanOps, Gen.checkOpsGen]  -- one iteration: the same two guards, then `ih`

theorem scanPaths_eq_gen (w a op : String) (paths : List CPath) :
    scanPaths w a op paths =
      Gen.checkLoopGen op (paths.map (fun p => (Re.search p.wallet w && Re.search p.account a, p.ops))) := by
  induction paths with
  | nil => rfl
  | cons p ps ih =>
    unfold scanPaths
    simp only [List.map_cons]
    unfold Gen.checkLoopGen
    rw [ih, scanOps_eq_gen]
    rfl

/-- `Check` as the translated guards followed by the translated loops.  The guards' inputs, read off the model's
    state: `pathOk` / `wallet` = outcome of `walletAndAccount` (Go returns empty names with the error),
    `known` = the client has an entry in the access map (a missing entry gives Go's nil slice: no paths). -/
def checkWrap (credsNil : Bool) (acc : Access) (client account op : String) : Bool :=
  match Gen.checkGuardsGen credsNil client (walletAndAccount account).isSome
      ((walletAndAccount account).getD ("", "")).1 (acc.lookup client).isSome with
  | some b => b
  | none =>
    Gen.checkLoopGen op (((acc.lookup client).getD []).map (fun p =>
      (Re.search p.wallet ((walletAndAccount account).getD ("", "")).1 &&
        Re.search p.account ((walletAndAccount account).getD ("", "")).2, p.ops)))

theorem check_eq_gen (acc : Access) (client account op : String) :
    check acc client account op = checkWrap false acc client account op := by
  unfold check checkWrap Gen.checkGuardsGen
  rw [← scanPaths_eq_gen]
  cases hwa : walletAndAccount account with
  | none => by_cases hc : client = "" <;> simp [hc, String.isEmpty_iff]
  | some wa =>
    cases hl : acc.lookup client <;> by_cases hc : client = "" <;> by_cases hw : wa.1 = "" <;>
      simp [hc, hw, String.isEmpty_iff]

/-- nil credentials (which the model folds into `client = ""`) are refused by the first guard, as an empty
    client name is -/
theorem checkWrap_nil (acc : Access) (client account op : String) :
    checkWrap true acc client account op = false ∧ checkWrap false acc "" account op = false := by
  unfold checkWrap Gen.checkGuardsGen; simp

example : Gen.checkGuardsGen false "client1" true "wallet" true = none ∧
    Gen.checkGuardsGen false "client1" true "wallet" false = some false ∧
    Gen.checkGuardsGen false "client1" true "" true = some false ∧
    Gen.checkGuardsGen false "client1" false "" true = some false := by
  simp [Gen.checkGuardsGen]

/-- a path that does not match is skipped whatever it lists; the loops' verdict is the first bearing item of a matching one -/
example (op : String) (ops : List String) :
    Gen.checkLoopGen op [(false, ops)] = false ∧ Gen.checkLoopGen op [] = false ∧
    Gen.checkLoopGen op [(true, [])] = false := by
  simp [Gen.checkLoopGen, Gen.checkOpsGen]

end Dirk
