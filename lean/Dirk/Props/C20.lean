/-
  C20 — No client request can crash the daemon (partial: runtime memory).

  (1) every panic-capable construct the regenerated inventory finds in the packages client requests reach
      is on the reviewed list (an obligation re-checked against /repo's source on every run);
  (2) the `Domain[0:4]` slicing in the rules cannot go out of bounds for any byte field protobuf decoding
      can produce; (3) the allocation sized by the client's `participants` is bounded by the number of
      configured peers; (4) key-generation messages from non-peers are refused before any processing;
  (5) the handler model returns one response entry per request entry (the per-position arrays are
      index-aligned: C06_shape_*).  Handlers in the Lean model are total functions by construction; what
      the Go runtime can still do (allocator, C library) is probed by the wire engine.
-/
import Dirk.Gen.Facts
import Dirk.Model.Crashes
import Dirk.Model.Handler
import Dirk.Props.C06
import Dirk.Props.C16
import Dirk.Props.Kernels.Dkg
import Dirk.Props.Kernels.Handler

namespace Dirk

/-- **C20 (inventory covered).** -/
theorem C20_sites_covered : ∀ s ∈ Gen.panicSites, s ∈ coveredSites := by
  simp only [Gen.panicSites, List.forall_mem_cons, List.not_mem_nil, false_imp_iff, implies_true, and_true]
  -- each entry is found in the reviewed list as the same literal (`eq_self`); `decide` would evaluate the comparison of
  -- these long strings, which is slow
  simp only [coveredSites, List.mem_cons, eq_self, or_true, true_or, and_true]

/-- **C20 (domain slicing is safe).** For every byte field protobuf decoding can produce, reading the
    4-byte type prefix never goes out of bounds. -/
theorem C20_domain_slice_safe (b : WireBytes) (h : b.Inv) : ∃ r, domainPrefix b = .ok r := by
  unfold domainPrefix
  split
  · exact ⟨none, rfl⟩
  · rename_i hne
    have := h.2.2 hne
    unfold slice04
    have : ¬ b.cap < 4 := by omega
    simp [this, Except.map]

/-- **C20 (allocation bounded).** The allocation in `Suitable` never exceeds the number of peers. -/
theorem C20_alloc_bounded (npeers n : Nat) :
    ∃ r, suitableAlloc npeers n = .ok r ∧ ∀ k, r = some k → k ≤ npeers := by
  unfold suitableAlloc
  split
  · exact ⟨none, rfl, by simp⟩
  · exact ⟨some n, rfl, by intro k hk; injection hk with hk; omega⟩

/-- **C20 (key-generation messages from non-peers).** Refused up front, state untouched (from C16). -/
theorem C20_dkg_non_peer (c : Dkg.Cluster) (i caller : Nat) (acct : String) (t : Nat) (parts : List Nat)
    (valid : Bool) (vlen : Nat) (h : Dkg.senderId c caller = 0) :
    Dkg.onPrepare c i caller acct t parts = (c, .unknownSender) ∧
    Dkg.onExecute c i caller acct = (c, .unknownSender) ∧
    Dkg.onContribute c i caller acct valid vlen = (c, .unknownSender) ∧
    Dkg.onCommit c i caller acct = (c, .unknownSender) ∧
    Dkg.onAbort c i caller acct = (c, .unknownSender) :=
  Dkg.C16_refuse_non_peer c i caller acct t parts valid vlen h

/-- **C20 (response shape through the handlers).** One response entry per request entry, one for an
    empty request — so indexing the response by request position is always in range. -/
theorem C20_handlers_shape (s : Inst) (c : String) (items : List (Addr × AttData)) (f : Faults) (sf : List Nat) :
    (hSignAtts s c items f sf).2.length = max 1 items.length := by
  cases items with
  | nil => rfl
  | cons it rest =>
    have h := C06_shape_atts s c ((it :: rest).map (fun it => (it.1.wire, it.2.wire))) f sf
    simp only [hSignAtts, List.map_cons, List.isEmpty_cons, Bool.false_eq_true, ↓reduceIte] at h ⊢
    split
    · simp
    · simpa using h

/-- The shipped defect (repaired by a `fix:` commit): the allocation happened before the comparison with
    the number of peers; a request for 2^32−1 participants against 3 peers aborts a process that may map
    fewer than 2^32−1 pointer-sized entries. -/
theorem C20_legacy_counterexample : suitableAllocLegacy (2 ^ 31) 3 (2 ^ 32 - 1) = .error .outOfMemory := by
  simp [suitableAllocLegacy]

/-- **tie by translation.** The bound check `C20_alloc_bounded` relies on is the guard translated on every run from the
    Go source of `Suitable` (peers/static/service.go), and it comes BEFORE the allocation. -/
theorem C20_kernel_is_source (npeers n : Nat) : suitableAlloc npeers n = .ok (Gen.suitableAllocGen n npeers) :=
  suitableAlloc_eq_gen npeers n

/-- **C20 / C06 (the batch handlers are the source).** What the gRPC handlers `SignBeaconAttestations` and `Multisign` do around the
    signer — one DENIED response for a nil or empty request; responses created UNKNOWN; the FIRST entry that fails
    identification gets its state and the handler returns without calling the signer; every signer result mapped to its
    response state, the signature copied under SUCCEEDED only — is translated on every run from
    services/api/grpc/handlers/signer/{signbeaconattestations,multisign}.go (factx/handlerbatch.go), and the model handlers
    `hSignAtts` / `hMultisign` are, case by case, those generated functions around `signAtts` / `multisign`
    (`hSignAtts_eq_gen`, `hMultisign_eq_gen` in Props/Kernels/Handler.lean).  Here: the response mapping is the model's `respond`
    for every position, and a signature leaves the handler only under SUCCEEDED. -/
theorem C20_handler_response_is_source (p : Pos) :
    respond p = ⟨p.res, if (Gen.resultToStateGen (resCode p.res)).2 then p.root else none⟩ ∧
    ((Gen.resultToStateGen (resCode p.res)).2 = true ↔ p.res = .succeeded) ∧
    (∀ n, resOfCode n = none → Gen.resultToStateGen n = (stateName .unknown, false)) :=
  ⟨(resultToState_eq_respond p).2.1, (resultToState_eq_respond p).2.2.2.1, (resultToState_eq_respond p).2.2.2.2⟩

end Dirk
