/-
  C15 — Concurrent batches with overlapping keys always complete (partial: scheduler).

  On the lock-protocol model (Dirk.Model.Conc), for every set of requests with duplicate-free key
  lists — whatever keys they share and in whatever orders they name them — and every reachable
  state: some request can always take a step unless all are done (no deadlock), every step strictly
  decreases a natural-number measure (no infinite execution), hence every maximal execution ends with
  all requests done.  The locker-wide critical section around the locking phase is what makes this
  true: the same protocol without it has a reachable stuck state.
  Assumed: a blocked mutex acquisition proceeds once the mutex is free (Go's sync.Mutex).
-/
import Dirk.Lemmas.ConcProgress
-- nothing declared in Props/C04 is used here: lib/props.py audits the C04 theorems through this module, for both checks
import Dirk.Props.C04

namespace Dirk.Conc

variable {Val : Type}

/-- **C15 (no deadlock).** -/
theorem C15_progress (reqs : List (Req Val)) (db0 c0 : Key → Val) (hnd : ∀ r ∈ reqs, r.keys.Nodup)
    (s : CState Val) (hr : Reachable reqs db0 c0 s) (hn : ¬ AllDone s) : ∃ t l s', Step s t l s' :=
  progress (inv_reachable reqs db0 c0 hnd s hr) hn

/-- **C15 (termination).** Every step decreases the measure; an execution from `s` has at most
    `measure s` steps.  (`hnd` and `hr` are not used: the count is exact, `exec_length`, from any state.) -/
theorem C15_measure (reqs : List (Req Val)) (db0 c0 : Key → Val) (hnd : ∀ r ∈ reqs, r.keys.Nodup)
    (s s' : CState Val) (hr : Reachable reqs db0 c0 s) (tr : List (Tid × Label)) (he : Exec s tr s') :
    tr.length + measure s' ≤ measure s :=
  Nat.le_of_eq (exec_length he)

/-- **C15 (completion).** From every reachable state all requests can run to completion. -/
theorem C15_complete (reqs : List (Req Val)) (db0 c0 : Key → Val) (hnd : ∀ r ∈ reqs, r.keys.Nodup)
    (s : CState Val) (hr : Reachable reqs db0 c0 s) : ∃ tr s', Exec s tr s' ∧ AllDone s' :=
  completes_of_inv s (inv_reachable reqs db0 c0 hnd s hr)

/-- **C15 (why PreLock/PostLock matter).** Without the locker-wide critical section two requests naming
    keys [0,1] and [1,0] reach a state where neither is done and nothing can move. -/
theorem C15_needs_global : ∃ (s : CState Unit),
    (∃ tr : List (Tid × Label), ExecNoGlobal (initState [⟨[0, 1], id⟩, ⟨[1, 0], id⟩] (fun _ => ()) (fun _ => ())) tr s) ∧
    ¬ AllDone s ∧ ¬ ∃ t l s', StepNoGlobal s t l s' :=
  needs_global

end Dirk.Conc

namespace Dirk

/-- **C04 / C15 (a key named twice is refused before any lock is taken).** For a batch of non-empty keys under a locking
    action, the validation translated from `RunRules` lets the request through exactly when the model's `firstDup` finds
    nothing — so every request that reaches the locks names distinct keys (the `Nodup` hypothesis of `C04_*` and `C15_*`) —
    and otherwise answers FAILED at the duplicate and UNKNOWN elsewhere, which the signer's loop reads as FAILED everywhere. -/
theorem C15_distinct_keys_is_source (ks : List Bytes) (hne : ks ≠ []) (hk : ∀ k ∈ ks, k ≠ []) (fe fd : Option Nat)
    (hfe : IsFirst (fun i => ∃ k, ks[i]? = some k ∧ k.length = 0) ks.length fe)
    (hfd : IsFirst (dupKeyAt ks) ks.length fd) :
    (Gen.runRulesValidateGen ks.length none none true fe fd = none ↔ firstDup [] 0 ks = none) :=
  (runRulesValidate_dup_eq_model ks hne hk fe fd hfe hfd).2.2.1

end Dirk
