import Dirk.Model.Basic
import Dirk.Model.Gob
import Dirk.Model.Rules
import Dirk.Model.Regex
import Dirk.Model.Checker
import Dirk.Model.Ssz
import Dirk.Model.Instance
import Dirk.Spec.Slashing
import Dirk.Lemmas.Codec
import Dirk.Lemmas.Range
import Dirk.Lemmas.Store
import Dirk.Lemmas.Coverage
import Dirk.Lemmas.PreCheck
import Dirk.Lemmas.OpsExtra
import Dirk.Lemmas.Run
import Dirk.Props.C01
import Dirk.Props.C02
import Dirk.Props.C05
import Dirk.Props.C06
import Dirk.Model.Scatter
import Dirk.Lemmas.Scatter
import Dirk.Lemmas.DkgAlgebra
import Dirk.Spec.Perms
import Dirk.Props.C07
import Dirk.Model.Import
import Dirk.Spec.Import
import Dirk.Lemmas.ImportProofs
import Dirk.Props.C08
import Dirk.Props.C09
import Dirk.Props.C10
import Dirk.Props.C11
import Dirk.Model.Conc
import Dirk.Lemmas.Exact
import Dirk.Lemmas.RegexAnchor
import Dirk.Model.LockTrace
import Dirk.Model.Crash
import Dirk.Lemmas.ConcSafety
import Dirk.Lemmas.ConcProgress
import Dirk.Lemmas.Crash
import Dirk.Props.C03
import Dirk.Props.C04
import Dirk.Props.C15
import Dirk.Model.Dkg
import Dirk.Model.Lister
import Dirk.Spec.Listing
import Dirk.Spec.Lifecycle
import Dirk.Lemmas.DkgLife
import Dirk.Lemmas.DkgSuccess
import Dirk.Lemmas.LifeJudge
import Dirk.Props.C12
import Dirk.Props.C13
import Dirk.Props.C14
import Dirk.Props.C16
import Dirk.Props.C17
import Dirk.Props.C18
import Dirk.Gen.Facts
import Dirk.Model.Transport
import Dirk.Model.Handler
import Dirk.Model.ShortRules
import Dirk.Model.Crashes
import Dirk.Props.FactsTls
import Dirk.Props.C19
import Dirk.Props.C20
import Dirk.Props.FactsStore
import Dirk.Gen.Kernels
import Dirk.Props.KernelsEq
import Dirk.Lemmas.PermsRefine
import Dirk.Model.ListerShape
import Dirk.Lemmas.ListerAnchor
import Dirk.Lemmas.SszBinding
import Dirk.Props.FactsResults
import Dirk.Lemmas.DkgProjection
